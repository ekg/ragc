import RagcModel.Model.Details
/-! Registration order: samples in first-seen order, contigs in push order (C03). -/
namespace Ragc.Details
open Ragc.Names

/-- Specification: keep the first occurrence of every element, in order. -/
def firstSeen : List Name → List Name
  | [] => []
  | a :: l => a :: (firstSeen l).filter (fun x => x ≠ a)

/-- The same with an accumulator (what a loop that pushes unseen elements computes). -/
def accSeen (acc : List Name) (l : List Name) : List Name :=
  l.foldl (fun acc a => if a ∈ acc then acc else acc ++ [a]) acc

theorem accSeen_cons (acc : List Name) (a : Name) (l : List Name) :
    accSeen acc (a :: l) = accSeen (if a ∈ acc then acc else acc ++ [a]) l := rfl

theorem accSeen_eq (l : List Name) : ∀ acc : List Name,
    accSeen acc l = acc ++ (firstSeen l).filter (fun x => x ∉ acc) := by
  induction l with
  | nil => intro acc; exact (List.append_nil acc).symm
  | cons a l ih =>
    intro acc
    rw [accSeen_cons, ih, firstSeen, List.filter_cons, List.filter_filter]
    by_cases ha : a ∈ acc
    · -- nothing is added: an `x ∉ acc` is different from `a` anyway
      rw [if_pos ha, if_neg (by simpa using ha)]
      congr 1
      refine List.filter_congr fun x _ => ?_
      by_cases hx : x ∈ acc
      · simp [hx]
      · simp [hx, show x ≠ a from fun e => hx (e ▸ ha)]
    · rw [if_neg ha, if_pos (by simpa using ha), List.append_assoc, List.singleton_append]
      congr 2
      refine List.filter_congr fun x _ => ?_
      simp

theorem accSeen_nil (l : List Name) : accSeen [] l = firstSeen l := by
  rw [accSeen_eq]; simp

theorem mem_firstSeen (l : List Name) (x : Name) : x ∈ firstSeen l ↔ x ∈ l := by
  induction l with
  | nil => rfl
  | cons a l ih =>
    simp only [firstSeen, List.mem_cons, List.mem_filter, ih, decide_eq_true_eq]
    by_cases hx : x = a <;> simp [hx]

theorem firstSeen_of_nodup (l : List Name) (h : l.Nodup) : firstSeen l = l := by
  induction l with
  | nil => rfl
  | cons a l ih =>
    obtain ⟨h1, h2⟩ := List.nodup_cons.mp h
    simp only [firstSeen, ih h2]
    congr 1
    rw [List.filter_eq_self]
    intro x hx
    simp only [ne_eq, decide_eq_true_eq]
    intro e; exact h1 (e ▸ hx)

theorem any_name_eq_iff {α : Type} (l : List α) (f : α → Name) (s : Name) :
    l.any (fun x => f x == s) = true ↔ s ∈ l.map f := by
  rw [List.any_eq_true, List.mem_map]
  exact exists_congr fun x => and_congr_right fun _ => by rw [beq_iff_eq]

theorem samplesList_cons (x : Sample) (xs : List Sample) :
    samplesList (x :: xs) = x.name :: samplesList xs := rfl

theorem samplesList_addToSample (ss : List Sample) (s c : Name) :
    samplesList (addToSample ss s c) = samplesList ss := by
  induction ss with
  | nil => rfl
  | cons x xs ih =>
    rw [addToSample]
    split
    · rfl
    · exact congrArg (x.name :: ·) ih

theorem samplesList_registerStored (ss : List Sample) (s c : Name) :
    samplesList (registerStored ss s c)
      = if s ∈ samplesList ss then samplesList ss else samplesList ss ++ [s] := by
  unfold registerStored
  by_cases h : s ∈ samplesList ss
  · rw [if_pos ((any_name_eq_iff ss Sample.name s).mpr h), if_pos h, samplesList_addToSample]
  · rw [if_neg (mt (any_name_eq_iff ss Sample.name s).mp h), if_neg h]; exact List.map_append

def contigsOf (ss : List Sample) (s : Name) : List Name := (contigList ss s).getD []

theorem contigsOf_nil (s : Name) : contigsOf [] s = [] := rfl

theorem contigsOf_cons (x : Sample) (xs : List Sample) (s : Name) :
    contigsOf (x :: xs) s = if x.name = s then x.contigs.map Contig.name else contigsOf xs s := by
  unfold contigsOf contigList
  rw [List.find?_cons]
  by_cases h : x.name = s
  · rw [if_pos h, beq_iff_eq.mpr h]; rfl
  · rw [if_neg h, beq_eq_false_iff_ne.mpr h]

theorem contigsOf_not_mem (ss : List Sample) (s : Name) (h : s ∉ samplesList ss) : contigsOf ss s = [] := by
  induction ss with
  | nil => rfl
  | cons x xs ih =>
    rw [samplesList_cons, List.mem_cons, not_or] at h
    rw [contigsOf_cons, if_neg (Ne.symm h.1), ih h.2]

theorem contigsOf_append (l1 l2 : List Sample) (s : Name) :
    contigsOf (l1 ++ l2) s = if s ∈ samplesList l1 then contigsOf l1 s else contigsOf l2 s := by
  induction l1 with
  | nil => rfl
  | cons x xs ih =>
    rw [List.cons_append, contigsOf_cons, contigsOf_cons, ih, samplesList_cons]
    by_cases h : x.name = s
    · rw [if_pos h, if_pos h, if_pos (List.mem_cons.mpr (.inl h.symm))]
    · rw [if_neg h, if_neg h]
      by_cases hm : s ∈ samplesList xs
      · rw [if_pos hm, if_pos (List.mem_cons_of_mem _ hm)]
      · rw [if_neg hm, if_neg fun hc => hm ((List.mem_cons.mp hc).resolve_left (Ne.symm h))]

/-- Adding a contig is one step of `accSeen` on the names. -/
theorem contigNames_addContig (cs : List Contig) (c : Name) :
    (addContig cs c).map Contig.name = accSeen (cs.map Contig.name) [c] := by
  show _ = if _ then _ else _
  unfold addContig
  by_cases h : c ∈ cs.map Contig.name
  · rw [if_pos ((any_name_eq_iff cs Contig.name c).mpr h), if_pos h]
  · rw [if_neg (mt (any_name_eq_iff cs Contig.name c).mp h), if_neg h]; exact List.map_append

theorem contigsOf_addToSample (ss : List Sample) (s c s' : Name) (hs : s ∈ samplesList ss) :
    contigsOf (addToSample ss s c) s'
      = if s = s' then accSeen (contigsOf ss s) [c] else contigsOf ss s' := by
  induction ss with
  | nil => exact absurd hs List.not_mem_nil
  | cons x xs ih =>
    rw [addToSample]
    by_cases hx : x.name = s
    · subst hx
      rw [if_pos rfl, contigsOf_cons, contigsOf_cons, contigsOf_cons, if_pos rfl, contigNames_addContig]
      by_cases hxs' : x.name = s'
      · rw [if_pos hxs', if_pos hxs']
      · rw [if_neg hxs', if_neg hxs', if_neg hxs']
    · have hs' : s ∈ samplesList xs := (List.mem_cons.mp hs).resolve_left (Ne.symm hx)
      rw [if_neg hx, contigsOf_cons, contigsOf_cons, contigsOf_cons, if_neg hx, ih hs']
      by_cases hxs' : x.name = s'
      · rw [if_pos hxs', if_pos hxs', if_neg fun e => hx (hxs'.trans e.symm)]
      · rw [if_neg hxs', if_neg hxs']

theorem contigsOf_registerStored (ss : List Sample) (s c s' : Name) :
    contigsOf (registerStored ss s c) s'
      = if s = s' then accSeen (contigsOf ss s) [c] else contigsOf ss s' := by
  unfold registerStored
  by_cases h : s ∈ samplesList ss
  · rw [if_pos ((any_name_eq_iff ss Sample.name s).mpr h)]
    exact contigsOf_addToSample ss s c s' h
  · -- a new sample: found after the old ones, which do not answer for `s`
    rw [if_neg (mt (any_name_eq_iff ss Sample.name s).mp h), contigsOf_append, contigsOf_cons, contigsOf_nil,
      contigsOf_not_mem ss s h]
    by_cases hss : s = s'
    · rw [if_pos hss, if_pos hss, if_neg (hss ▸ h)]; rfl
    · rw [if_neg hss, if_neg hss]
      split
      · rfl
      · next hm => exact (contigsOf_not_mem ss s' hm).symm

/-- `registerAll` when every stored sample name is given explicitly. -/
def registerAllStored : List Sample → List (Name × Name) → List Sample
  | ss, [] => ss
  | ss, (s, c) :: r => registerAllStored (registerStored ss s c) r

theorem storedName_of_ne_nil {s : Name} (h : s ≠ []) (c : Name) : storedName s c = some s := by
  cases s with
  | nil => exact absurd rfl h
  | cons a t => rfl

theorem registerAll_nonempty (pairs : List (Name × Name)) : ∀ ss : List Sample,
    (∀ p ∈ pairs, p.1 ≠ []) → registerAll ss pairs = some (registerAllStored ss pairs) := by
  induction pairs with
  | nil => intro ss _; rfl
  | cons p r ih =>
    intro ss h
    have ⟨hp, hr⟩ := List.forall_mem_cons.mp h
    rw [registerAll, register, storedName_of_ne_nil hp]
    exact ih _ hr

theorem samplesList_registerAllStored (pairs : List (Name × Name)) : ∀ ss : List Sample,
    samplesList (registerAllStored ss pairs) = accSeen (samplesList ss) (pairs.map Prod.fst) := by
  induction pairs with
  | nil => intro ss; rfl
  | cons p r ih =>
    intro ss
    rw [registerAllStored, ih, samplesList_registerStored]; rfl

theorem contigsOf_registerAllStored (pairs : List (Name × Name)) (s' : Name) : ∀ ss : List Sample,
    contigsOf (registerAllStored ss pairs) s'
      = accSeen (contigsOf ss s') ((pairs.filter (fun p => p.1 = s')).map Prod.snd) := by
  induction pairs with
  | nil => intro ss; rfl
  | cons p r ih =>
    intro ss
    obtain ⟨s, c⟩ := p
    rw [registerAllStored, ih, contigsOf_registerStored, List.filter_cons]
    by_cases hss : s = s'
    · subst hss
      rw [if_pos rfl, if_pos (decide_eq_true rfl)]; rfl
    · rw [if_neg hss, if_neg (by simpa using hss)]

end Ragc.Details
