import RagcModel.Model.Tuple
/-!
Helper lemmas for C12 about `Model/Tuple.lean`: the per-tuple base-`mx` digit lemma, the chunk
induction for `packLoop`/`unpackLoop`, the marker byte arithmetic, and from these the round trip
`tuplesToBytesMode (bytesToTuples bs) = some bs` through the dispatch of `bytes_to_tuples`.
-/
namespace Ragc.Tuple

/-- Induction from the right end of a list (core Lean has no `List.reverseRecOn`). -/
theorem list_snoc_induction {α : Type} {P : List α → Prop} (nil : P [])
    (snoc : ∀ l a, P l → P (l ++ [a])) (l : List α) : P l := by
  rw [← List.reverse_reverse l]
  induction l.reverse with
  | nil => exact nil
  | cons a t ih => rw [List.reverse_cons]; exact snoc _ _ ih

theorem tupleVal_nil (mx : Nat) : tupleVal mx [] = 0 := rfl

theorem tupleVal_snoc (mx : Nat) (xs : List Nat) (b : Nat) :
    tupleVal mx (xs ++ [b]) = tupleVal mx xs * mx + b := by
  simp only [tupleVal, List.foldl_append, List.foldl_cons, List.foldl_nil]

theorem tupleVal_lt (mx : Nat) (xs : List Nat) (h : ∀ b ∈ xs, b < mx) :
    tupleVal mx xs < mx ^ xs.length := by
  induction xs using list_snoc_induction with
  | nil => exact Nat.one_pos
  | snoc l a ih =>
    have ha : a < mx := h a (List.mem_append_right _ List.mem_cons_self)
    rw [tupleVal_snoc, List.length_append, List.length_singleton, Nat.pow_succ]
    calc tupleVal mx l * mx + a < tupleVal mx l * mx + mx := Nat.add_lt_add_left ha _
      _ = (tupleVal mx l + 1) * mx := (Nat.succ_mul _ _).symm
      _ ≤ mx ^ l.length * mx :=
        Nat.mul_le_mul_right mx (ih fun b hb => h b (List.mem_append_left _ hb))

/-- Per-tuple digit lemma: reading back as many base-`mx` digits as there were symbols returns
the symbols. -/
theorem digits_tupleVal (mx : Nat) (xs : List Nat) (h : ∀ b ∈ xs, b < mx) :
    digits mx xs.length (tupleVal mx xs) = xs := by
  induction xs using list_snoc_induction with
  | nil => rfl
  | snoc l a ih =>
    have ha : a < mx := h a (List.mem_append_right _ List.mem_cons_self)
    rw [tupleVal_snoc, List.length_append, List.length_singleton, digits, Nat.mul_comm,
      Nat.mul_add_div (Nat.zero_lt_of_lt ha), Nat.div_eq_of_lt ha, Nat.add_zero, Nat.mul_add_mod,
      Nat.mod_eq_of_lt ha, ih fun b hb => h b (List.mem_append_left _ hb)]

theorem digits_lt (mx : Nat) (hmx : 0 < mx) : ∀ k c, ∀ d ∈ digits mx k c, d < mx := by
  intro k
  induction k with
  | zero => intro c d hd; cases hd
  | succ k ih =>
    intro c d hd
    rcases List.mem_append.mp hd with hd | hd
    · exact ih _ d hd
    · cases List.mem_singleton.mp hd; exact Nat.mod_lt _ hmx

theorem length_digits (mx : Nat) : ∀ k c, (digits mx k c).length = k := by
  intro k
  induction k with
  | zero => intro c; rfl
  | succ k ih => intro c; rw [digits, List.length_append, ih]; rfl

/-- Chunk induction: decoding the tuples of `bs` with the right trailing count returns `bs`.
`mx ^ n ≤ 256` says a full tuple fits a byte, so `c as u8` loses nothing. -/
theorem unpackLoop_packLoop (n mx outputSize : Nat) (hn : 0 < n) (hmx : 0 < mx)
    (hpow : mx ^ n ≤ 256) (rem : Nat) (bs : List Nat) (hlen : rem = bs.length)
    (hb : ∀ b ∈ bs, b < mx) (hmod : outputSize % n = rem % n) :
    unpackLoop n mx outputSize (packLoop n mx bs rem) rem = some bs := by
  -- `case1`: a full tuple is left (`h : 0 < n ∧ n ≤ rem`); `case2`: only the trailing tuple
  fun_induction packLoop n mx bs rem with
  | case1 bs rem h ih =>
    have htake : (bs.take n).length = n := by rw [List.length_take, ← hlen]; exact Nat.min_eq_left h.2
    have hbt : ∀ b ∈ bs.take n, b < mx := fun b hb' => hb b (List.mem_of_mem_take hb')
    have hv : tupleVal mx (bs.take n) < 256 := by
      have := tupleVal_lt mx _ hbt
      rw [htake] at this; exact Nat.lt_of_lt_of_le this hpow
    have hd : digits mx n (tupleVal mx (bs.take n)) = bs.take n := by
      have := digits_tupleVal mx _ hbt
      rwa [htake] at this
    rw [unpackLoop, if_pos h.2, Nat.mod_eq_of_lt hv, hd,
      ih (by rw [List.length_drop, hlen]) (fun b hb' => hb b (List.mem_of_mem_drop hb'))
        (hmod.trans (Nat.mod_eq_sub_mod h.2)),
      Option.map_some, List.take_append_drop]
  | case2 bs rem h =>
    have hlt : bs.length < n := hlen ▸ Nat.lt_of_not_le fun hle => h ⟨hn, hle⟩
    have hr : outputSize % n = bs.length := by rw [hmod, hlen, Nat.mod_eq_of_lt hlt]
    have hv : tupleVal mx bs < 256 :=
      Nat.lt_of_lt_of_le (tupleVal_lt mx _ hb)
        (Nat.le_trans (Nat.pow_le_pow_right hmx (Nat.le_of_lt hlt)) hpow)
    rw [unpackLoop, if_neg (Nat.not_le.mpr (hlen ▸ hlt)), hr, Nat.mod_eq_of_lt hv]
    cases bs with
    | nil => rfl
    | cons b bs => rw [if_pos (show 0 < (b :: bs).length from Nat.succ_pos _), digits_tupleVal mx _ hb]

theorem packLoop_of_le {n mx : Nat} {bs : List Nat} {rem : Nat} (h : 0 < n ∧ n ≤ rem) :
    packLoop n mx bs rem =
      (tupleVal mx (bs.take n) % 256) :: packLoop n mx (bs.drop n) (rem - n) := by
  rw [packLoop, dif_pos h]

theorem packLoop_of_not_le {n mx : Nat} {bs : List Nat} {rem : Nat} (h : ¬ (0 < n ∧ n ≤ rem)) :
    packLoop n mx bs rem = [tupleVal mx bs % 256] := by
  rw [packLoop, dif_neg h]

theorem length_packLoop (n mx : Nat) (hn : 0 < n) (rem : Nat) (bs : List Nat) :
    (packLoop n mx bs rem).length = rem / n + 1 := by
  fun_induction packLoop n mx bs rem with
  | case1 bs rem h ih => rw [List.length_cons, ih, ← Nat.div_eq_sub_div hn h.2]
  | case2 bs rem h =>
    rw [List.length_singleton, Nat.div_eq_of_lt (Nat.lt_of_not_le fun hle => h ⟨hn, hle⟩)]

theorem packLoop_lt (n mx rem : Nat) (bs : List Nat) : ∀ t ∈ packLoop n mx bs rem, t < 256 := by
  fun_induction packLoop n mx bs rem with
  | case1 bs rem h ih =>
    intro t ht
    rcases List.mem_cons.mp ht with rfl | ht
    · exact Nat.mod_lt _ (by decide)
    · exact ih t ht
  | case2 bs rem h =>
    intro t ht
    cases List.mem_singleton.mp ht
    exact Nat.mod_lt _ (by decide)

/-- The marker byte is `16 n + r`: high nibble = width, low nibble = number of trailing symbols. -/
theorem marker_fields (n r : Nat) (hn : n < 16) (hr : r < 16) :
    ((((n % 256) <<< 4) % 256) ||| (r % 256)) >>> 4 = n ∧
    ((((n % 256) <<< 4) % 256) ||| (r % 256)) &&& 0xf = r := by
  -- nothing overflows the byte and the nibbles do not overlap: the byte is `16 n + r`
  have e : (((n % 256) <<< 4) % 256) ||| (r % 256) = r + n * 2 ^ 4 := by
    rw [Nat.mod_eq_of_lt (Nat.lt_trans hn (by decide)), Nat.mod_eq_of_lt (Nat.lt_trans hr (by decide)),
      Nat.shiftLeft_eq, Nat.mod_eq_of_lt (Nat.mul_lt_mul_of_pos_right hn (by decide) : n * 2 ^ 4 < 16 * 2 ^ 4),
      ← Nat.shiftLeft_eq, ← Nat.shiftLeft_add_eq_or_of_lt (i := 4) hr, Nat.shiftLeft_eq, Nat.add_comm]
  rw [e, Nat.shiftRight_eq_div_pow]
  exact ⟨by rw [Nat.add_mul_div_right _ _ (by decide), Nat.div_eq_of_lt hr, Nat.zero_add],
    (Nat.and_two_pow_sub_one_eq_mod _ 4).trans (by rw [Nat.add_mul_mod_self_right, Nat.mod_eq_of_lt hr])⟩

theorem markerByte_lt (n len : Nat) : markerByte n len < 256 :=
  Nat.or_lt_two_pow (n := 8) (Nat.mod_lt _ (by decide)) (Nat.mod_lt _ (by decide))

theorem tuplesToBytesMode_concat (c : Bool) (body : List Nat) (marker : Nat) :
    tuplesToBytesMode c (body ++ [marker]) =
      if marker >>> 4 == 1 then some body
      else
        match outputSizeOf c (body.length + 1) (marker >>> 4) (marker &&& 0xf) with
        | none => none
        | some outputSize =>
          match marker >>> 4 with
          | 2 => unpackLoop 2 16 outputSize body outputSize
          | 3 => unpackLoop 3 6 outputSize body outputSize
          | 4 => unpackLoop 4 4 outputSize body outputSize
          | _ => none := by
  have hne : (body ++ [marker]).isEmpty = false := by simp
  simp only [tuplesToBytesMode, hne, Bool.false_eq_true, if_false, List.getLast?_concat,
    Option.getD_some, List.dropLast_concat, List.length_append, List.length_singleton]
  rfl

/-- Decoding a packed string (either arithmetic profile) returns the symbols, for each of the
three (width, base) pairs of `bytes_to_tuples`. -/
theorem tuplesToBytesMode_packTuples (c : Bool) (n mx : Nat)
    (hcase : (n = 4 ∧ mx = 4) ∨ (n = 3 ∧ mx = 6) ∨ (n = 2 ∧ mx = 16))
    (bs : List Nat) (hb : ∀ b ∈ bs, b < mx) :
    tuplesToBytesMode c (packTuples n mx bs) = some bs := by
  obtain ⟨hn2, hn5, hmx, hpow⟩ : 2 ≤ n ∧ n < 5 ∧ 0 < mx ∧ mx ^ n ≤ 256 := by
    rcases hcase with ⟨rfl, rfl⟩ | ⟨rfl, rfl⟩ | ⟨rfl, rfl⟩ <;> decide
  have hn0 : 0 < n := Nat.lt_of_lt_of_le (by decide) hn2
  have hr : bs.length % n < n := Nat.mod_lt _ hn0
  obtain ⟨hhi, hlo⟩ := marker_fields n (bs.length % n) (Nat.lt_trans hn5 (by decide))
    (Nat.lt_trans hr (Nat.lt_trans hn5 (by decide)))
  have hsz : outputSizeOf c (bs.length / n + 1 + 1) n (bs.length % n) = some bs.length := by
    rw [outputSizeOf, if_pos (Nat.le_add_left 2 _)]
    exact congrArg some (Nat.div_add_mod' _ _)
  have hloop := unpackLoop_packLoop n mx bs.length hn0 hmx hpow bs.length bs rfl hb rfl
  rw [packTuples, tuplesToBytesMode_concat, markerByte, hhi, hlo, length_packLoop n mx hn0, hsz,
    if_neg (by rw [beq_iff_eq]; exact Nat.ne_of_gt hn2)]
  rcases hcase with ⟨rfl, rfl⟩ | ⟨rfl, rfl⟩ | ⟨rfl, rfl⟩ <;> exact hloop

theorem le_maxElem (bs : List Nat) : ∀ b ∈ bs, b ≤ maxElem bs := by
  suffices ∀ (bs : List Nat) (a : Nat), a ≤ bs.foldl max a ∧ ∀ b ∈ bs, b ≤ bs.foldl max a from
    (this bs 0).2
  intro bs
  induction bs with
  | nil => exact fun a => ⟨Nat.le_refl _, fun _ h => nomatch h⟩
  | cons x xs ih =>
    intro a
    obtain ⟨h1, h2⟩ := ih (max a x)
    refine ⟨Nat.le_trans (Nat.le_max_left a x) h1, fun b hb => ?_⟩
    rcases List.mem_cons.mp hb with rfl | hb
    · exact Nat.le_trans (Nat.le_max_right a b) h1
    · exact h2 b hb

/-- The four outcomes of the dispatch in `bytes_to_tuples`: the empty marker, one of the three
packings (all symbols then lie below the base), or the verbatim copy. -/
theorem bytesToTuples_cases (bs : List Nat) :
    bytesToTuples bs = [0x10] ∧ bs = [] ∨
    (∃ n mx, ((n = 4 ∧ mx = 4) ∨ (n = 3 ∧ mx = 6) ∨ (n = 2 ∧ mx = 16)) ∧ (∀ b ∈ bs, b < mx) ∧
      bytesToTuples bs = packTuples n mx bs) ∨
    bytesToTuples bs = bs ++ [0x10] := by
  have hlt : ∀ {m}, maxElem bs < m → ∀ b ∈ bs, b < m :=
    fun h b hb => Nat.lt_of_le_of_lt (le_maxElem bs b hb) h
  unfold bytesToTuples
  by_cases he : bs.isEmpty
  · exact Or.inl ⟨if_pos he, List.isEmpty_iff.mp he⟩
  · rw [if_neg he]
    by_cases h4 : maxElem bs < 4
    · exact Or.inr (Or.inl ⟨4, 4, Or.inl ⟨rfl, rfl⟩, hlt h4, if_pos h4⟩)
    · by_cases h6 : maxElem bs < 6
      · exact Or.inr (Or.inl ⟨3, 6, Or.inr (Or.inl ⟨rfl, rfl⟩), hlt h6, by
          simp only [if_neg h4, if_pos h6]⟩)
      · by_cases h16 : maxElem bs < 16
        · exact Or.inr (Or.inl ⟨2, 16, Or.inr (Or.inr ⟨rfl, rfl⟩), hlt h16, by
            simp only [if_neg h4, if_neg h6, if_pos h16]⟩)
        · exact Or.inr (Or.inr (by simp only [if_neg h4, if_neg h6, if_neg h16]))

theorem bytesToTuples_ne_nil (bs : List Nat) : bytesToTuples bs ≠ [] := by
  rcases bytesToTuples_cases bs with ⟨h, _⟩ | ⟨n, mx, _, _, h⟩ | h
  · rw [h]; exact List.cons_ne_nil _ _
  · rw [h, packTuples]; exact List.append_ne_nil_of_right_ne_nil _ (List.cons_ne_nil _ _)
  · rw [h]; exact List.append_ne_nil_of_right_ne_nil _ (List.cons_ne_nil _ _)

theorem tuplesToBytesMode_bytesToTuples (c : Bool) (bs : List Nat) :
    tuplesToBytesMode c (bytesToTuples bs) = some bs := by
  rcases bytesToTuples_cases bs with ⟨h, rfl⟩ | ⟨n, mx, hcase, hb, h⟩ | h
  · rw [h]; cases c <;> rfl
  · rw [h]; exact tuplesToBytesMode_packTuples c n mx hcase bs hb
  · rw [h, tuplesToBytesMode_concat]; rfl

theorem bytesToTuples_lt (bs : List Nat) (h : ∀ b ∈ bs, b < 256) :
    ∀ t ∈ bytesToTuples bs, t < 256 := by
  intro t ht
  rcases bytesToTuples_cases bs with ⟨e, _⟩ | ⟨n, mx, _, _, e⟩ | e
  · rw [e] at ht; cases List.mem_singleton.mp ht; decide
  · rw [e, packTuples] at ht
    rcases List.mem_append.mp ht with ht | ht
    · exact packLoop_lt n mx _ _ t ht
    · cases List.mem_singleton.mp ht; exact markerByte_lt _ _
  · rw [e] at ht
    rcases List.mem_append.mp ht with ht | ht
    · exact h t ht
    · cases List.mem_singleton.mp ht; decide

theorem tuplesToBytesMode_eq_of_length_ne_one (ts : List Nat) (h : ts.length ≠ 1) :
    tuplesToBytesMode true ts = tuplesToBytesMode false ts := by
  rcases List.eq_nil_or_concat ts with rfl | ⟨body, m, rfl⟩
  · rfl
  · rw [List.concat_eq_append] at h ⊢
    have hlen : 2 ≤ body.length + 1 := by
      rw [List.length_append, List.length_singleton] at h; omega
    simp only [tuplesToBytesMode_concat, outputSizeOf, if_pos hlen]

end Ragc.Tuple
