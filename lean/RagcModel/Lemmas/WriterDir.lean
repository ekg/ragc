import RagcModel.Model.Writer
import RagcModel.Lemmas.Container
import RagcModel.Lemmas.Agc3Names
import RagcModel.Lemmas.ListFacts
import RagcModel.Lemmas.StreamNames
import RagcModel.Lemmas.Varint
import RagcModel.Lemmas.CollVarint
import RagcModel.Props.C13
/-!
Container and directory of `read_write` (C01/C02). The history of one `create` (`Writer.archiveOps`:
registrations, buffered parts, one flush) closed and opened by the decoder: the directory lists the
registered names in order and every stream reads back exactly the parts buffered under its name
(`rel_run`, `openBytesFixed_close` of `Lemmas/Container.lean`; C13 `flush_commits_per_stream`). The names the reference writer registers (`regNames`:
distinct, NUL-free), the parts it buffers under each (`partsOf (partList …)`), and the decoder's checks
of the fixed streams (`checkFixedStreams`, `checkTypeInfo`, `readParams`) on that archive.
-/
namespace Ragc.WriterLemmas

section Container
open Ragc.Agc3 Ragc.Writer Ragc.Container Ragc.Varint

/-- the parts buffered under one stream name, as they read back -/
def partsOf (parts : List (List Nat × Blob)) (name : List Nat) : List Blob :=
  (parts.filter (fun nb => nb.1 == name)).map (fun nb => Spec.readBack nb.2)

theorem spec_registers : ∀ (more ns : List (List Nat)), (ns ++ more).Nodup →
    Spec.specFrom ⟨ns, List.replicate ns.length [], []⟩ (more.map Op.register)
      = ⟨ns ++ more, List.replicate (ns ++ more).length [], []⟩ := by
  intro more
  induction more with
  | nil => intro ns _; simp [Spec.specFrom]
  | cons n more ih =>
    intro ns hnd
    have hn : n ∉ ns := fun hc => (List.nodup_append.mp hnd).2.2 n hc n List.mem_cons_self rfl
    have := ih (ns ++ [n]) (by rwa [List.append_assoc, List.singleton_append])
    rw [List.length_append, List.length_singleton, List.replicate_succ', List.append_assoc,
      List.singleton_append] at this
    simp only [List.map_cons, Spec.specFrom, List.foldl_cons, Spec.step, hn, if_false]
    exact this

theorem spec_addBufs (names : List (List Nat)) :
    ∀ (parts : List (List Nat × Blob)) (a : Spec.Log),
      Spec.specFrom a (parts.map fun nb => Op.addBuf (streamId names nb.1) nb.2.1 nb.2.2)
        = { a with pending := a.pending ++ parts.map fun nb => (streamId names nb.1, nb.2) } := by
  intro parts
  induction parts with
  | nil => intro a; simp [Spec.specFrom]
  | cons nb parts ih =>
    intro a
    have := ih { a with pending := a.pending ++ [(streamId names nb.1, nb.2.1, nb.2.2)] }
    rw [List.append_assoc, List.singleton_append] at this
    exact this

theorem spec_archiveOps (names : List (List Nat)) (parts : List (List Nat × Blob)) (hnd : names.Nodup) :
    Spec.spec (archiveOps names parts) =
      Spec.step ⟨names, List.replicate names.length [], parts.map fun nb => (streamId names nb.1, nb.2)⟩ .flush := by
  have h1 : Spec.specFrom Spec.Log.init (names.map Op.register) = ⟨names, List.replicate names.length [], []⟩ :=
    spec_registers names [] hnd
  have h2 := spec_addBufs names parts ⟨names, List.replicate names.length [], []⟩
  unfold Spec.spec archiveOps
  unfold Spec.specFrom at h1 h2 ⊢
  rw [List.foldl_append, List.foldl_append, h1, h2]
  rfl

theorem spec_names (names : List (List Nat)) (parts : List (List Nat × Blob)) (hnd : names.Nodup) :
    (Spec.spec (archiveOps names parts)).names = names := by
  rw [spec_archiveOps names parts hnd]
  exact (commitLoop_frame _ _).1

/-- the flush commits the buffered parts of stream `i` in order (C13 `flush_commits_per_stream`) -/
theorem spec_parts (names : List (List Nat)) (parts : List (List Nat × Blob)) (hnd : names.Nodup)
    (hin : ∀ nb ∈ parts, nb.1 ∈ names) (i : Nat) (hi : i < names.length) :
    (Spec.spec (archiveOps names parts)).parts.getD i [] =
      (parts.filter (fun nb => nb.1 == names[i])).map (·.2) := by
  rw [spec_archiveOps names parts hnd]
  have := Ragc.Props.C13.flush_commits_per_stream
    ⟨names, List.replicate names.length [], parts.map fun nb => (streamId names nb.1, nb.2)⟩ i
    (by simp) (by
      intro x hx
      simp only [List.mem_map] at hx
      obtain ⟨nb, hnb, rfl⟩ := hx
      exact List.idxOf_lt_length_of_mem (hin nb hnb))
  rw [this.2.2]
  simp only [List.getD_eq_getElem?_getD, List.getElem?_replicate, hi, if_true, Option.getD_some,
    List.nil_append, List.filter_map, List.map_map]
  congr 1
  exact List.filter_congr fun nb hnb => idxOf_beq names hnd nb.1 (hin nb hnb) i hi

theorem readParts_match (w tail : List Nat) (hs : (w ++ tail).length ≤ seekMax) :
    ∀ (ps : List Part) (bl : List Blob), PartsMatch w ps bl → (∀ b ∈ bl, b.2 < 2 ^ 64) →
      ps.mapM (readPartA (w ++ tail).toArray) = .ok (bl.map Spec.readBack) := by
  intro ps
  induction ps with
  | nil =>
    intro bl h _
    have : bl = [] := List.eq_nil_of_length_eq_zero h.1.symm
    subst this
    rfl
  | cons p ps ih =>
    intro bl h hm
    cases bl with
    | nil => have := h.1; simp at this
    | cons b bl =>
      have hf : Framed w p b := h.2 0 p b rfl rfl
      have hrest : PartsMatch w ps bl := ⟨Nat.succ.inj h.1, fun i q c hq hc => h.2 (i + 1) q c hq hc⟩
      have hrd := readPartData_framed goodRV_readVarintFixed hf tail seekMax hs (hm b (by simp))
      have hwl : w.length ≤ (w ++ tail).length := List.length_append ▸ Nat.le_add_right _ _
      have hA := (readPartA_eq (w ++ tail) p (Nat.le_trans (Nat.le_of_lt hf.end_lt) hwl)
        (Nat.le_trans (Nat.le_of_lt hf.off_lt) (Nat.le_trans hwl hs)) (Spec.readBack b)).mpr hrd
      have hih := ih bl hrest (fun c hc => hm c (by simp [hc]))
      simp only [List.mapM_cons, hA, hih, List.map_cons]
      rfl

/-- **The decoder's view of any history**: the closed file opens, the directory is the list of
streams, and every stream reads back the parts the abstract log holds for it. -/
theorem opens_of_rel {s : State} {a : Spec.Log} (h : Rel s a) (hlen : (close s).length ≤ seekMax) :
    openArchive (close s) = .ok ⟨(close s).toArray, s.streams⟩ ∧
    ∀ i (hi : i < s.streams.length) (hb : i < a.parts.length),
      readParts (close s).toArray s.streams[i] = .ok (a.parts[i].map Spec.readBack) := by
  refine ⟨?_, fun i hi hb => ?_⟩
  · unfold openArchive
    rw [openBytesFixed_close h seekMax (by decide) hlen]
  · exact readParts_match s.written _ hlen _ _
      (h.parts i _ _ (List.getElem?_eq_getElem hi) (List.getElem?_eq_getElem hb))
      (h.metaOK _ (List.getElem_mem hb))

theorem archiveOps_ok (names : List (List Nat)) (parts : List (List Nat × Blob))
    (hnul : ∀ n ∈ names, ∀ b ∈ n, b ≠ 0) (hmd : ∀ nb ∈ parts, nb.2.2 < 2 ^ 64) :
    ∀ op ∈ archiveOps names parts, OpOK op := by
  intro op hop
  unfold archiveOps at hop
  simp only [List.mem_append, List.mem_map, List.mem_singleton] at hop
  rcases hop with (⟨n, hn, rfl⟩ | ⟨nb, hnb, rfl⟩) | rfl
  · exact hnul n hn
  · exact hmd nb hnb
  · trivial

/-- **The container gives every part back** (decoder's view). -/
theorem archive_opens (names : List (List Nat)) (parts : List (List Nat × Blob))
    (hnd : names.Nodup) (hnul : ∀ n ∈ names, ∀ b ∈ n, b ≠ 0)
    (hin : ∀ nb ∈ parts, nb.1 ∈ names) (hmd : ∀ nb ∈ parts, nb.2.2 < 2 ^ 64)
    (hlen : (close (run (archiveOps names parts))).length ≤ seekMax) :
    ∃ o, openArchive (close (run (archiveOps names parts))) = .ok o ∧
      o.dir.map (·.name) = names ∧
      ∀ st ∈ o.dir, readParts o.file st = .ok (partsOf parts st.name) := by
  have h := rel_run (archiveOps names parts) (archiveOps_ok names parts hnul hmd)
  have hnames : (run (archiveOps names parts)).streams.map (·.name) = names :=
    h.names ▸ spec_names names parts hnd
  obtain ⟨hopen, hread⟩ := opens_of_rel h hlen
  refine ⟨_, hopen, hnames, fun st hst => ?_⟩
  obtain ⟨i, hi, rfl⟩ := List.getElem_of_mem hst
  have hi' : i < names.length := by rw [← hnames, List.length_map]; exact hi
  have hb : i < (Spec.spec (archiveOps names parts)).parts.length := h.len ▸ hi
  have hname : (run (archiveOps names parts)).streams[i].name = names[i] := by
    have := List.getElem_of_eq hnames (i := i) (by rw [List.length_map]; exact hi)
    rwa [List.getElem_map] at this
  rw [hread i hi hb, hname]
  have hsp := spec_parts names parts hnd hin i hi'
  rw [List.getD_eq_getElem?_getD, List.getElem?_eq_getElem hb, Option.getD_some] at hsp
  unfold partsOf
  rw [hsp, List.map_map]
  rfl

end Container

section Directory
open Ragc.Agc3 Ragc.Writer Ragc.Container Ragc.StreamNames

/-- segment stream names start with `x`, the fixed ones do not -/
def isX (n : List Nat) : Bool := n.head? == some 120

theorem isX_delta (g : Nat) : isX (deltaName g) = true := rfl
theorem isX_ref (g : Nat) : isX (refName g) = true := rfl

/-- For the kernel a string literal is `String.ofList` of its characters, so rewriting with this
lemma reads the codes off a literal; evaluating `String.toList` instead runs the UTF-8 decoder
over the byte array, character by character, at every use. -/
theorem str_ofList (cs : List Char) : Writer.str (String.ofList cs) = cs.map Char.toNat := by
  unfold Writer.str; rw [String.toList_ofList]

theorem str_inj {s t : String} : Writer.str s = Writer.str t ↔ s = t := by
  unfold Writer.str
  rw [List.map_inj_right fun _ _ => Char.toNat_inj.mp, String.toList_inj]

theorem fixed_not_x : ∀ n ∈ fixedStreamNames, isX n = false := by
  unfold fixedStreamNames
  repeat rw [str_ofList]
  decide

theorem intToBase64_nz (n : Nat) : ∀ b ∈ intToBase64 n, b ≠ 0 := by
  have hdigit : ∀ i, digitAt (i % 64) ≠ 0 := fun i => by
    have hall : ∀ d ∈ Ragc.Gen.b64Digits, d ≠ 0 := by decide
    unfold digitAt
    rw [List.getD_eq_getElem?_getD, List.getElem?_eq_getElem (digits_length ▸ Nat.mod_lt i (by decide))]
    exact hall _ (List.getElem_mem _)
  fun_induction intToBase64 n with
  | case1 n _ => simpa using hdigit n
  | case2 n _ ih =>
    intro b hb
    rcases List.mem_cons.mp hb with rfl | hb
    · exact hdigit n
    · exact ih b hb

theorem ref_ne_delta (g g' : Nat) : refName g ≠ deltaName g' := refName_ne_deltaName g g'

def groupNames (ids : List Nat) : List (List Nat) := ids.flatMap fun g => [deltaName g, refName g]

theorem regNames_eq (dec : Decisions) : regNames dec = fixedStreamNames ++ groupNames (dec.groups.map (·.id)) := by
  unfold regNames groupNames
  rw [List.flatMap_map]

theorem mem_groupNames (ids : List Nat) (n : List Nat) :
    n ∈ groupNames ids ↔ ∃ g ∈ ids, n = deltaName g ∨ n = refName g := by
  unfold groupNames
  simp only [List.mem_flatMap, List.mem_cons, List.not_mem_nil, or_false]

theorem groupNames_nodup (ids : List Nat) (h : ids.Nodup) : (groupNames ids).Nodup := by
  refine List.pairwise_flatMap.mpr ⟨fun g _ => ?_, h.imp fun {g g'} hne x hx y hy hxy => ?_⟩
  · simpa using fun h => ref_ne_delta g g h.symm
  · simp only [List.mem_cons, List.not_mem_nil, or_false] at hx hy
    rcases hx with rfl | rfl <;> rcases hy with rfl | rfl
    · exact hne (deltaName_inj _ _ hxy)
    · exact ref_ne_delta _ _ hxy.symm
    · exact ref_ne_delta _ _ hxy
    · exact hne (refName_inj _ _ hxy)

theorem regNames_nodup (dec : Decisions) (h : (dec.groups.map (·.id)).Nodup) : (regNames dec).Nodup := by
  have hfixed : fixedStreamNames.Nodup := by
    simp only [fixedStreamNames, List.nodup_cons, List.mem_cons, List.not_mem_nil, str_inj, String.reduceEq,
      or_false, not_false_eq_true, List.nodup_nil, and_self]
  rw [regNames_eq]
  refine List.nodup_append.mpr ⟨hfixed, groupNames_nodup _ h, fun a ha b hb hab => ?_⟩
  have hx := fixed_not_x b (hab ▸ ha)
  obtain ⟨g, _, rfl | rfl⟩ := (mem_groupNames _ b).mp hb <;> cases hx

theorem regNames_nz (dec : Decisions) : ∀ n ∈ regNames dec, ∀ b ∈ n, b ≠ 0 := by
  have hfixed : ∀ n ∈ fixedStreamNames, ∀ b ∈ n, b ≠ 0 := by
    unfold fixedStreamNames
    repeat rw [str_ofList]
    decide
  have hx : ∀ g c, c ≠ 0 → ∀ b ∈ chX :: (intToBase64 g ++ [c]), b ≠ 0 := by
    intro g c hc b hb
    simp only [List.mem_cons, List.mem_append, List.not_mem_nil, or_false] at hb
    rcases hb with rfl | hb | rfl
    · decide
    · exact intToBase64_nz g b hb
    · exact hc
  intro n hn
  rw [regNames_eq] at hn
  rcases List.mem_append.mp hn with h | h
  · exact hfixed n h
  · obtain ⟨g, _, rfl | rfl⟩ := (mem_groupNames _ n).mp h
    · exact hx g chD (by decide)
    · exact hx g chR (by decide)

theorem partsOf_nil (n : List Nat) : partsOf [] n = [] := rfl

theorem partsOf_cons (m n : List Nat) (b : Blob) (p : List (List Nat × Blob)) :
    partsOf ((m, b) :: p) n = if m = n then Spec.readBack b :: partsOf p n else partsOf p n := by
  unfold partsOf
  by_cases h : m = n <;> simp [h]

theorem partsOf_append (p q : List (List Nat × Blob)) (n : List Nat) :
    partsOf (p ++ q) n = partsOf p n ++ partsOf q n := by
  unfold partsOf
  rw [List.filter_append, List.map_append]

theorem partsOf_flatMap {α : Type} (l : List α) (f : α → List (List Nat × Blob)) (n : List Nat) :
    partsOf (l.flatMap f) n = l.flatMap fun x => partsOf (f x) n := by
  unfold partsOf
  rw [List.filter_flatMap, List.map_flatMap]

theorem partsOf_map_const (m n : List Nat) (bs : List Blob) :
    partsOf (bs.map fun b => (m, b)) n = if m = n then bs.map Spec.readBack else [] := by
  induction bs with
  | nil => simp [partsOf_nil]
  | cons b bs ih => rw [List.map_cons, partsOf_cons, ih]; split <;> rfl

theorem partsOf_eq_nil (p : List (List Nat × Blob)) (n : List Nat) (h : ∀ nb ∈ p, nb.1 ≠ n) :
    partsOf p n = [] := by
  unfold partsOf
  rw [List.filter_eq_nil_iff.mpr fun nb hnb => by simpa using h nb hnb]
  rfl

def groupPartsOf (o : GroupOut) : List (List Nat × Blob) :=
  (o.refPart.toList.map fun b => (refName o.id, b)) ++ o.packs.map fun b => (deltaName o.id, b)

/-- everything `finalize` buffers after the groups: all under fixed names -/
def restParts (cfg : Cfg) (zc : Nat → List Nat → List Nat) (inp : List Writer.Sample)
    (batches : List Ragc.Details.StoredBatch) : List (List Nat × Blob) :=
  [(Writer.str "params", (paramsData cfg, 0)), (Writer.str "splitters", ([], 0)), (Writer.str "segment-splitters", ([], 0)),
   (Writer.str "collection-samples", samplesPart zc inp)] ++
  batches.flatMap (fun b => [(Writer.str "collection-contigs", contigsPart zc b), (Writer.str "collection-details", detailsPart zc b)]) ++
  [(Writer.str "file_type_info", (fileTypeInfo, 7))]

theorem partList_eq (cfg : Cfg) (zc : Nat → List Nat → List Nat) (inp : List Writer.Sample) (outs : List GroupOut)
    (batches : List Ragc.Details.StoredBatch) :
    partList cfg zc inp outs batches = outs.flatMap groupPartsOf ++ restParts cfg zc inp batches := by
  simp only [partList, restParts, List.append_assoc]
  congr 2
  funext o
  unfold groupPartsOf
  cases o.refPart <;> rfl

theorem partsOf_groupPartsOf (o : GroupOut) (n : List Nat) :
    partsOf (groupPartsOf o) n = (if refName o.id = n then o.refPart.toList.map Spec.readBack else []) ++
      if deltaName o.id = n then o.packs.map Spec.readBack else [] := by
  rw [groupPartsOf, partsOf_append, partsOf_map_const, partsOf_map_const]

theorem restParts_names (cfg : Cfg) (zc : Nat → List Nat → List Nat) (inp : List Writer.Sample)
    (batches : List Ragc.Details.StoredBatch) : ∀ nb ∈ restParts cfg zc inp batches, nb.1 ∈ fixedStreamNames := by
  intro nb hnb
  simp only [restParts, List.mem_append, List.mem_cons, List.mem_flatMap, List.not_mem_nil, or_false] at hnb
  rcases hnb with ((h | h | h | h) | ⟨b, _, h | h⟩) | h <;> (subst h; simp [fixedStreamNames])

theorem partsOf_fixed (cfg : Cfg) (zc : Nat → List Nat → List Nat) (inp : List Writer.Sample) (outs : List GroupOut)
    (batches : List Ragc.Details.StoredBatch) (n : List Nat) (hn : isX n = false) :
    partsOf (partList cfg zc inp outs batches) n = partsOf (restParts cfg zc inp batches) n := by
  rw [partList_eq, partsOf_append, partsOf_flatMap, List.flatMap_eq_nil_iff.mpr, List.nil_append]
  intro o _
  apply partsOf_eq_nil
  intro nb hnb hc
  simp only [groupPartsOf, List.mem_append, List.mem_map] at hnb
  rcases hnb with ⟨b, _, rfl⟩ | ⟨b, _, rfl⟩ <;> (rw [← hc] at hn; cases hn)

theorem partsOf_fixed_names (cfg : Cfg) (zc : Nat → List Nat → List Nat) (inp : List Writer.Sample)
    (outs : List GroupOut) (batches : List Ragc.Details.StoredBatch) :
    partsOf (partList cfg zc inp outs batches) (Writer.str "params") = [Spec.readBack (paramsData cfg, 0)] ∧
    partsOf (partList cfg zc inp outs batches) (Writer.str "file_type_info") = [Spec.readBack (fileTypeInfo, 7)] ∧
    partsOf (partList cfg zc inp outs batches) (Writer.str "collection-samples") = [Spec.readBack (samplesPart zc inp)] ∧
    partsOf (partList cfg zc inp outs batches) (Writer.str "collection-contigs")
      = batches.map (fun b => Spec.readBack (contigsPart zc b)) ∧
    partsOf (partList cfg zc inp outs batches) (Writer.str "collection-details")
      = batches.map (fun b => Spec.readBack (detailsPart zc b)) := by
  refine ⟨?_, ?_, ?_, ?_, ?_⟩ <;> rw [partsOf_fixed _ _ _ _ _ _ (by rw [str_ofList]; rfl)] <;>
    simp only [restParts, partsOf_append, partsOf_flatMap, partsOf_cons, partsOf_nil, str_inj, String.reduceEq,
      if_true, if_false, List.nil_append, List.append_nil, List.map_eq_flatMap, List.flatMap_eq_nil_iff.mpr,
      implies_true]

theorem partsOf_group (cfg : Cfg) (zc : Nat → List Nat → List Nat) (inp : List Writer.Sample) (outs : List GroupOut)
    (batches : List Ragc.Details.StoredBatch) (hnd : (outs.map (·.id)).Nodup) (o : GroupOut) (ho : o ∈ outs) :
    partsOf (partList cfg zc inp outs batches) (deltaName o.id) = o.packs.map Spec.readBack ∧
    partsOf (partList cfg zc inp outs batches) (refName o.id) = o.refPart.toList.map Spec.readBack := by
  have hrest : ∀ n, isX n = true → partsOf (restParts cfg zc inp batches) n = [] := fun n hn =>
    partsOf_eq_nil _ _ fun nb hnb hc => by
      have := fixed_not_x _ (restParts_names cfg zc inp batches nb hnb)
      rw [hc, hn] at this
      cases this
  rw [partList_eq, partsOf_append, partsOf_append, partsOf_flatMap, partsOf_flatMap, hrest _ rfl, hrest _ rfl,
    List.append_nil, List.append_nil]
  have hrd : ∀ g g', deltaName g ≠ refName g' := fun g g' hc => ref_ne_delta _ _ hc.symm
  constructor
  · rw [flatMap_unique (·.id) _ outs o hnd ho fun x _ hx => by
        rw [partsOf_groupPartsOf, if_neg (ref_ne_delta _ _), if_neg fun hc => hx (deltaName_inj _ _ hc)]; rfl,
      partsOf_groupPartsOf, if_neg (ref_ne_delta _ _), if_pos rfl, List.nil_append]
  · rw [flatMap_unique (·.id) _ outs o hnd ho fun x _ hx => by
        rw [partsOf_groupPartsOf, if_neg fun hc => hx (refName_inj _ _ hc), if_neg (hrd _ _)]; rfl,
      partsOf_groupPartsOf, if_pos rfl, if_neg (hrd _ _), List.append_nil]

theorem partList_names (cfg : Cfg) (zc : Nat → List Nat → List Nat) (inp : List Writer.Sample) (dec : Decisions)
    (outs : List GroupOut) (batches : List Ragc.Details.StoredBatch)
    (hids : outs.map (·.id) = dec.groups.map (·.id)) :
    ∀ nb ∈ partList cfg zc inp outs batches, nb.1 ∈ regNames dec := by
  intro nb hnb
  rw [regNames_eq, List.mem_append]
  rw [partList_eq, List.mem_append, List.mem_flatMap] at hnb
  rcases hnb with ⟨o, ho, h⟩ | h
  · right
    refine (mem_groupNames _ _).mpr ⟨o.id, hids ▸ List.mem_map_of_mem ho, ?_⟩
    simp only [groupPartsOf, List.mem_append, List.mem_map] at h
    rcases h with ⟨b, _, rfl⟩ | ⟨b, _, rfl⟩
    · exact Or.inr rfl
    · exact Or.inl rfl
  · exact Or.inl (restParts_names cfg zc inp batches nb h)

end Directory

section FixedStreams
open Ragc.Agc3 Ragc.Writer Ragc.Container Ragc.Varint

/-- What `container_returns_every_part` gives for the reference writer's archive: the opened
archive lists `names` and every stream reads back the parts buffered under its name. -/
structure Opens (o : Opened) (names : List (List Nat)) (parts : List (List Nat × Blob)) : Prop where
  dir : o.dir.map (·.name) = names
  read : ∀ st ∈ o.dir, Agc3.readParts o.file st = .ok (partsOf parts st.name)

theorem str_eq (s : String) : Agc3.str s = Writer.str s := rfl

theorem Opens.lookup {o : Opened} {names : List (List Nat)} {parts : List (List Nat × Blob)}
    (h : Opens o names parts) {n : List Nat} (hn : n ∈ names) :
    ∃ st, o.dir.find? (fun st => st.name == n) = some st ∧
      Agc3.readParts o.file st = .ok (partsOf parts n) := by
  rw [← h.dir] at hn
  obtain ⟨st0, hst0, hname0⟩ := List.mem_map.mp hn
  cases hf : o.dir.find? (fun st => st.name == n) with
  | none => exact absurd (beq_iff_eq.mpr hname0) (List.find?_eq_none.mp hf st0 hst0)
  | some st =>
    have hname : st.name = n := beq_iff_eq.mp (List.find?_some (p := fun st : Stream => st.name == n) hf)
    exact ⟨st, rfl, hname ▸ h.read st (List.mem_of_find?_eq_some hf)⟩

theorem checked_mem_regNames (dec : Decisions) : ∀ s ∈ fixedNamesChecked, Writer.str s ∈ regNames dec := by
  have : ∀ s ∈ fixedNamesChecked, Writer.str s ∈ fixedStreamNames := by
    simp [fixedNamesChecked, fixedStreamNames]
  intro s hs
  rw [regNames_eq]
  exact List.mem_append_left _ (this s hs)

theorem checkFixedStreams_ok (o : Opened) (names : List (List Nat)) (parts : List (List Nat × Blob))
    (h : Opens o names parts) (hnd : names.Nodup) (hmem : ∀ s ∈ fixedNamesChecked, Agc3.str s ∈ names) (a : Acc) :
    checkFixedStreams o a = a := by
  unfold checkFixedStreams
  apply foldl_keep
  intro s hs b
  have : countP o.dir (fun st => st.name == Agc3.str s) = names.count (Agc3.str s) := by
    unfold countP
    rw [← h.dir, List.count_eq_length_filter, List.filter_map, List.length_map]
    rfl
  rw [this, hnd.count, if_pos (hmem s hs), if_pos rfl]

/-- the encoding of key/value pairs in `file_type_info` -/
def encodeKV (kv : List (List Nat × List Nat)) : List Nat := kv.flatMap fun p => p.1 ++ 0 :: (p.2 ++ [0])

theorem parseTypeInfo_encodeKV (kv : List (List Nat × List Nat))
    (h : ∀ p ∈ kv, (∀ b ∈ p.1, b ≠ 0) ∧ ∀ b ∈ p.2, b ≠ 0) : parseTypeInfo (encodeKV kv) = kv := by
  -- `parseTypeInfo` takes the length of its input as fuel: enough, every field ends in a byte of its own
  suffices ∀ fuel, (encodeKV kv).length ≤ fuel →
      parseTypeInfo.pairs (parseTypeInfo.fields fuel (encodeKV kv)) = kv from this _ (Nat.le_refl _)
  induction kv with
  | nil => intro fuel _; cases fuel <;> rfl
  | cons p kv ih =>
    intro fuel hf
    have e : encodeKV (p :: kv) = p.1 ++ 0 :: (p.2 ++ 0 :: encodeKV kv) := by
      simp only [encodeKV, List.flatMap_cons, List.append_assoc, List.cons_append, List.nil_append]
    rw [e, List.length_append, List.length_cons, List.length_append, List.length_cons] at hf
    obtain ⟨fuel, rfl⟩ : ∃ f, fuel = f + 2 := ⟨fuel - 2, by omega⟩
    obtain ⟨h1, h2⟩ := h p List.mem_cons_self
    simp only [e, parseTypeInfo.fields, Ragc.CollVarint.splitNul_append _ _ h1,
      Ragc.CollVarint.splitNul_append _ _ h2, parseTypeInfo.pairs]
    rw [ih (fun q hq => h q (List.mem_cons_of_mem _ hq)) fuel (by omega)]

/-- the key/value pairs of `Writer.fileTypeInfo` -/
def typeInfoKV : List (List Nat × List Nat) :=
  [(Writer.str "producer", Writer.str "ragc"),
   (Writer.str "producer_version_major", dec10 Ragc.Gen.agcFileMajor),
   (Writer.str "producer_version_minor", dec10 Ragc.Gen.agcFileMinor),
   (Writer.str "producer_version_build", Writer.str "0"),
   (Writer.str "file_version_major", dec10 Ragc.Gen.agcFileMajor),
   (Writer.str "file_version_minor", dec10 Ragc.Gen.agcFileMinor),
   (Writer.str "comment", Writer.str "RAGC v." ++ dec10 Ragc.Gen.agcFileMajor ++ Writer.str "." ++ dec10 Ragc.Gen.agcFileMinor)]

theorem fileTypeInfo_eq : fileTypeInfo = encodeKV typeInfoKV := rfl

theorem checkTypeInfo_ok (o : Opened) (dec : Decisions) (cfg : Cfg) (zc : Nat → List Nat → List Nat)
    (inp : List Writer.Sample) (outs : List GroupOut) (batches : List Ragc.Details.StoredBatch)
    (h : Opens o (regNames dec) (partList cfg zc inp outs batches)) (a : Acc) :
    checkTypeInfo o a = .ok a := by
  obtain ⟨st, hf, hr⟩ := h.lookup (checked_mem_regNames dec "file_type_info" (by simp [fixedNamesChecked]))
  have hnz : ∀ p ∈ typeInfoKV, (∀ b ∈ p.1, b ≠ 0) ∧ ∀ b ∈ p.2, b ≠ 0 := by
    unfold typeInfoKV
    repeat rw [str_ofList]
    decide
  have hne : fileTypeInfo ≠ [] := fun hc => by
    rw [fileTypeInfo_eq, typeInfoKV, encodeKV, List.flatMap_cons] at hc
    exact absurd (List.append_eq_nil_iff.mp (List.append_eq_nil_iff.mp hc).1).2 (List.cons_ne_nil _ _)
  have hver : ((typeInfoKV.find? fun p => p.1 == Agc3.str "file_version_major").bind fun p => natOfDec p.2)
        = some versionMajor ∧
      ((typeInfoKV.find? fun p => p.1 == Agc3.str "file_version_minor").bind fun p => natOfDec p.2)
        = some versionMinor := by
    simp only [typeInfoKV, str_eq, List.find?_cons_of_neg, List.find?_cons_of_pos, beq_iff_eq, str_inj,
      String.reduceEq, not_false_eq_true, Option.bind_some]
    decide
  unfold checkTypeInfo
  rw [str_eq, hf]
  simp only []
  rw [hr, (partsOf_fixed_names cfg zc inp outs batches).2.1, readBack_eq (b := (fileTypeInfo, 7)) fun hc => absurd hc hne]
  simp only [bind, Except.bind, fileTypeInfo_eq, parseTypeInfo_encodeKV _ hnz]
  rw [if_pos (show 7 = typeInfoKV.length from rfl), if_pos hver]
  rfl

theorem le32_leBytes (v : Nat) (hv : v < 2 ^ 32) (rest : List Nat) : le32 (leBytes 4 v ++ rest) = v := by
  unfold le32
  rw [List.take_left' (leBytes_length 4 v), leVal_leBytes]
  exact Nat.mod_eq_of_lt (by simpa using hv)

theorem readParams_ok (o : Opened) (dec : Decisions) (cfg : Cfg) (zc : Nat → List Nat → List Nat)
    (inp : List Writer.Sample) (outs : List GroupOut) (batches : List Ragc.Details.StoredBatch)
    (h : Opens o (regNames dec) (partList cfg zc inp outs batches))
    (hk : cfg.k < 2 ^ 32) (hm : cfg.minMatch < 2 ^ 32) (hs : cfg.segSize < 2 ^ 32) (a : Acc) :
    readParams o a = .ok (a, cfg.k, cfg.minMatch, cfg.segSize) := by
  obtain ⟨st, hf, hr⟩ := h.lookup (checked_mem_regNames dec "params" (by simp [fixedNamesChecked]))
  unfold readParams findFixed
  rw [str_eq, hf]
  simp only [bind, Except.bind]
  rw [hr, (partsOf_fixed_names cfg zc inp outs batches).1, readBack_eq fun _ => rfl]
  simp only [pure, Except.pure]
  have hlen : (paramsData cfg).length = 16 := by simp [paramsData, leBytes_length]
  rw [if_neg (by rw [hlen]; omega)]
  have d4 : (paramsData cfg).drop 4 = leBytes 4 cfg.minMatch ++ (leBytes 4 50 ++ leBytes 4 cfg.segSize) :=
    List.drop_left' (leBytes_length 4 _)
  have d8 : (paramsData cfg).drop 8 = leBytes 4 50 ++ leBytes 4 cfg.segSize := by
    rw [← List.drop_drop (i := 4) (j := 4), d4]; exact List.drop_left' (leBytes_length 4 _)
  have d12 : (paramsData cfg).drop 12 = leBytes 4 cfg.segSize ++ [] := by
    rw [← List.drop_drop (i := 4) (j := 8), d8, List.append_nil]; exact List.drop_left' (leBytes_length 4 _)
  have e0 : le32 (paramsData cfg) = cfg.k := le32_leBytes _ hk _
  rw [d4, d8, d12, le32_leBytes _ hm, le32_leBytes 50 (by decide), le32_leBytes _ hs, e0]
  simp [packCard]

end FixedStreams

end Ragc.WriterLemmas
