import RagcModel.Lemmas.WriterBases
import RagcModel.Lemmas.WriterDir
import RagcModel.Props.C03
/-!
Catalogue, segment streams and the composition of `read_write` (C01/C02). `decodeCatalogue` on the
parts the reference writer stores (`samplesPart`, `contigsPart`, `detailsPart` over
`Details.storeBatches`) with the C03 round trips; `xStreams`, `addStream` and the fold of `decodeGroup`
over the writer's directory (`decodeGroups`); `checkUnused`; and all stages of `decodeArchive` composed
on the written bytes (`read_write_main`).
-/
namespace Ragc.WriterLemmas

section Catalogue
open Ragc.Agc3 Ragc.Writer Ragc.Container Ragc.Details Ragc.Names

/-- catalogue entries as the C03 theorems need them -/
structure CatSampleOK (s : Details.Sample) : Prop where
  name : ∀ b ∈ s.name, 1 ≤ b ∧ b ≤ 127
  cnt : s.contigs.length < 2 ^ 32
  contigs : ∀ c ∈ s.contigs, (∀ b ∈ c.name, 1 ≤ b ∧ b ≤ 127) ∧ c.segs.length < 2 ^ 32 ∧
    ∀ g ∈ c.segs, g.group < 2 ^ 32 ∧ g.inGroup + 1 < 2 ^ 31 ∧ g.rawLen < 2 ^ 32

/-- the decoder's table of one sample -/
def tableOfSample (s : Details.Sample) : ContigTable := s.contigs.map fun c => (c.name, c.segs)

theorem cutFrames_flatten : ∀ (fs : List (List Nat)), cutFrames (fs.map List.length) fs.flatten = some fs := by
  intro fs
  induction fs with
  | nil => rfl
  | cons f fs ih =>
    simp only [List.map_cons, List.flatten_cons, cutFrames, List.length_append]
    rw [if_neg (by omega), List.drop_left, List.take_left, ih]
    rfl

theorem sizeTable_map (f : List Nat → List Nat) (raws : List (List Nat)) :
    sizeTable raws (raws.map f) = raws.flatMap fun r => [r.length, (f r).length] := by
  induction raws with
  | nil => rfl
  | cons r raws ih => simp only [sizeTable] at ih ⊢; rw [List.map_cons, List.zip_cons_cons, List.flatMap_cons, ih]; rfl

/-- what `parseDetailsPart` returns for a stored batch -/
def parsedDetails (zc : Nat → List Nat → List Nat) (b : StoredBatch) : DetailsPart :=
  ⟨b.details.map List.length, b.details.map (zc levelDetails), 0⟩

theorem parseDetailsPart_frames (r0 r1 r2 r3 r4 f0 f1 f2 f3 f4 : List Nat) (md : Nat)
    (hlt : ∀ x ∈ sizeTable [r0, r1, r2, r3, r4] [f0, f1, f2, f3, f4], x < 4294967296) :
    parseDetailsPart (encNats (sizeTable [r0, r1, r2, r3, r4] [f0, f1, f2, f3, f4]) ++ [f0, f1, f2, f3, f4].flatten, md)
      = .ok ⟨[r0, r1, r2, r3, r4].map List.length, [f0, f1, f2, f3, f4], md⟩ := by
  have hdec := decNats_encNats _ [f0, f1, f2, f3, f4].flatten hlt
  have hcut := cutFrames_flatten [f0, f1, f2, f3, f4]
  have hst : sizeTable [r0, r1, r2, r3, r4] [f0, f1, f2, f3, f4] = [r0.length, f0.length, r1.length, f1.length,
    r2.length, f2.length, r3.length, f3.length, r4.length, f4.length] := rfl
  rw [hst] at hdec
  unfold parseDetailsPart
  rw [hst]
  simp only [List.length_cons, List.length_nil] at hdec
  simp only [hdec]
  simp only [List.map_cons, List.map_nil] at hcut ⊢
  simp only [hcut]

theorem parseDetailsPart_ok (zc : Nat → List Nat → List Nat) (names r0 r1 r2 r3 r4 : List Nat)
    (hfit : sizesFit zc ⟨names, [r0, r1, r2, r3, r4]⟩ = true) :
    parseDetailsPart (Spec.readBack (detailsPart zc ⟨names, [r0, r1, r2, r3, r4]⟩))
      = .ok (parsedDetails zc ⟨names, [r0, r1, r2, r3, r4]⟩) := by
  unfold detailsPart
  rw [readBack_eq fun _ => rfl]
  refine parseDetailsPart_frames _ _ _ _ _ _ _ _ _ _ 0 fun x hx => ?_
  replace hx : x ∈ sizeTable [r0, r1, r2, r3, r4] ([r0, r1, r2, r3, r4].map (zc levelDetails)) := hx
  rw [sizeTable_map, List.mem_flatMap] at hx
  obtain ⟨r, hr, hx⟩ := hx
  have := List.all_eq_true.mp hfit r hr
  simp only [Bool.and_eq_true, decide_eq_true_eq] at this
  simp only [List.mem_cons, List.not_mem_nil, or_false] at hx
  rcases hx with rfl | rfl
  · exact this.1
  · exact this.2

theorem fits_self : ∀ (b : Batch), fits (b.map List.length) b = true := by
  intro b
  induction b with
  | nil => rfl
  | cons s ss ih => simp [fits, ih]

theorem zipWith_tables (chunk : List Details.Sample) :
    List.zipWith (fun ns ds => List.zip ns ds) (namesOf chunk) (segsOf chunk) = chunk.map tableOfSample := by
  unfold namesOf segsOf
  rw [List.zipWith_map, List.zipWith_self]
  exact List.map_congr_left fun s _ => List.zip_map'

/-- one batch of the catalogue is read back (C03 `names_roundtrip`, `details_roundtrip`) -/
theorem decodeBatch_ok (zc : Nat → List Nat → List Nat) (zd : List Nat → Option (List Nat))
    (hz : ∀ l x, zd (zc l x) = some x) (hne : ∀ l x, zc l x = [] → x = [])
    (k segSize : Nat) (hpred : segSize + k ≤ 2 ^ 31) (a : Acc) (idx avail : Nat)
    (chunk : List Details.Sample) (hok : ∀ s ∈ chunk, CatSampleOK s) (hlen : chunk.length < 2 ^ 32)
    (hav : chunk.length ≤ avail) :
    decodeBatch zd k segSize a idx avail (Spec.readBack (contigsPart zc (storeBatch segSize k chunk)))
      (parsedDetails zc (storeBatch segSize k chunk)) = .ok (a, chunk.map tableOfSample) := by
  have hraw : encodeNames (namesOf chunk) ≠ [] := fun hc =>
    Ragc.CollVarint.encode_ne_nil _ (List.append_eq_nil_iff.mp hc).1
  have hshape : (segsOf chunk).map List.length = (namesOf chunk).map List.length := by
    simp [namesOf, segsOf, List.map_map, Function.comp_def]
  have hframe : zc levelContigNames (encodeNames (namesOf chunk)) ≠ [] := fun hc => hraw (hne _ _ hc)
  have hnames := Ragc.Props.C03.names_roundtrip (namesOf chunk) avail
    (by rw [namesOf, List.length_map]; exact hlen) (by rw [namesOf, List.length_map]; exact hav)
    (List.forall_mem_map.mpr fun x hx => by rw [List.length_map]; exact (hok x hx).cnt)
    (List.forall_mem_map.mpr fun x hx => List.forall_mem_map.mpr fun c hc => ((hok x hx).contigs c hc).1)
  have hdet := Ragc.Props.C03.details_roundtrip segSize k (segsOf chunk) ((namesOf chunk).map List.length) hpred
    (by rw [segsOf, List.length_map]; exact hlen)
    (List.forall_mem_map.mpr fun x hx => ⟨by rw [List.length_map]; exact (hok x hx).cnt,
      List.forall_mem_map.mpr fun c hc => ((hok x hx).contigs c hc).2.1⟩)
    (List.forall_mem_map.mpr fun x hx => List.forall_mem_map.mpr fun c hc => ((hok x hx).contigs c hc).2.2)
    (hshape ▸ fits_self _)
  unfold decodeBatch parsedDetails contigsPart storeBatch
  simp only []
  rw [readBack_eq fun hc => absurd hc hframe]
  simp only [hz, bind, Except.bind, pure, Except.pure, if_true, hnames]
  rw [mapM_map_ok (zc levelDetails) _ id _ fun x _ => by simp only [hz]; rfl, List.map_id]
  simp only [hdet]
  simp [hshape, zipWith_tables]

theorem storeBatches_nil (segSize k : Nat) : storeBatches segSize k 50 [] = [] := by
  rw [storeBatches, dif_pos (Or.inl rfl)]

theorem storeBatches_length (segSize k : Nat) (ss : List Details.Sample) :
    (storeBatches segSize k 50 ss).length = (ss.length + 49) / 50 := by
  fun_induction storeBatches segSize k 50 ss with
  | case1 ss h =>
    have : ss = [] := h.resolve_right (by decide)
    subst this; rfl
  | case2 ss h ih =>
    have := List.length_pos_iff.mpr fun e => h (Or.inl e)
    rw [List.length_cons, ih, List.length_drop]
    omega

theorem mem_storeBatches (segSize k : Nat) (ss : List Details.Sample) :
    ∀ b ∈ storeBatches segSize k 50 ss, ∃ chunk, b = storeBatch segSize k chunk := by
  fun_induction storeBatches segSize k 50 ss with
  | case1 => intro b hb; cases hb
  | case2 ss h ih =>
    intro b hb
    rcases List.mem_cons.mp hb with rfl | hb
    · exact ⟨_, rfl⟩
    · exact ih b hb

/-- The loop of `decodeCatalogue` over the stored batches of the samples `ss` still to load (`nS`
samples, `nB` batches in all): a batch of fewer than 50 samples is the last one of `storeBatches`
and completes `nS`, so no batch is reported. -/
theorem batchLoop_ok (zc : Nat → List Nat → List Nat) (zd : List Nat → Option (List Nat))
    (hz : ∀ l x, zd (zc l x) = some x) (hne : ∀ l x, zc l x = [] → x = [])
    (k segSize : Nat) (hpred : segSize + k ≤ 2 ^ 31) (nS nB : Nat) (a : Acc) (ss : List Details.Sample) :
    ∀ (loaded idx : Nat) (out : Array ContigTable),
      (∀ s ∈ ss, CatSampleOK s) → nS = loaded + ss.length → nB = idx + (storeBatches segSize k 50 ss).length →
      (List.zip ((storeBatches segSize k 50 ss).map fun b => Spec.readBack (contigsPart zc b))
          ((storeBatches segSize k 50 ss).map (parsedDetails zc))).foldlM
        (batchStep zd k segSize nS nB) (a, out, loaded, idx)
        = .ok (a, out ++ (ss.map tableOfSample).toArray, nS, nB) := by
  fun_induction storeBatches segSize k 50 ss with
  | case1 ss h =>
    intro loaded idx out _ hnS hnB
    have : ss = [] := h.resolve_right (by decide)
    subst this
    simp [hnS, hnB, pure, Except.pure]
  | case2 ss h ih =>
    intro loaded idx out hok hnS hnB
    have hcheck : (ss.take 50).length = packCard ∨ (idx + 1 = nB ∧ loaded + (ss.take 50).length = nS) := by
      by_cases h50 : 50 ≤ ss.length
      · exact Or.inl (List.length_take_of_le h50)
      · have hle : ss.length ≤ 50 := Nat.le_of_not_le h50
        rw [List.drop_eq_nil_of_le hle, storeBatches_nil] at hnB
        rw [List.take_of_length_le hle]
        exact Or.inr ⟨hnB.symm, hnS.symm⟩
    have hstep : batchStep zd k segSize nS nB (a, out, loaded, idx)
        (Spec.readBack (contigsPart zc (storeBatch segSize k (ss.take 50))),
          parsedDetails zc (storeBatch segSize k (ss.take 50)))
        = .ok (a, out ++ ((ss.take 50).map tableOfSample).toArray, loaded + (ss.take 50).length, idx + 1) := by
      unfold batchStep
      simp only []
      rw [decodeBatch_ok zc zd hz hne k segSize hpred a idx (nS - loaded) (ss.take 50)
        (fun s hs => hok s (List.mem_of_mem_take hs))
        (Nat.lt_of_le_of_lt (List.length_take_le 50 ss) (by decide))
        (by rw [hnS, Nat.add_sub_cancel_left]; exact List.length_take_le' 50 ss)]
      simp only [bind, Except.bind, pure, Except.pure, List.length_map]
      rw [if_pos hcheck]
    simp only [List.map_cons, List.zip_cons_cons, List.foldlM_cons]
    rw [hstep]
    simp only [bind, Except.bind]
    rw [ih _ _ _ (fun s hs => hok s (List.mem_of_mem_drop hs))
      (by rw [Nat.add_assoc, ← List.length_append, List.take_append_drop]; exact hnS)
      (by rw [hnB, List.length_cons, Nat.add_assoc, Nat.add_comm 1]),
      Array.append_assoc, List.append_toArray ((ss.take 50).map tableOfSample), ← List.map_append,
      List.take_append_drop]

theorem catalogue_ok (cfg : Cfg) (inp : List Writer.Sample) (dec : Decisions) (zc : Nat → List Nat → List Nat)
    (outs : List GroupOut) (hok : DecOK cfg inp dec) (hcodes : codesOK inp)
    (hw : writeGroups cfg zc (storedAll cfg.k inp dec) dec.groups = some outs) :
    ∀ x ∈ catalogue inp dec outs, CatSampleOK x := by
  intro x hx
  unfold catalogue at hx
  obtain ⟨s, smp, dcs, h1, h3, rfl⟩ := mem_zipWith _ _ _ _ hx
  have hS := hok.samples _ (mem_zip_of_get _ _ _ _ _ h1 h3)
  refine ⟨nameOK_bytes _ hS.name, ?_, ?_⟩
  · simp only [List.length_zipWith]
    exact Nat.lt_of_le_of_lt (Nat.min_le_left _ _) hS.cnt
  · intro cc hcc
    obtain ⟨c, ctg, ds, h2, h4, rfl⟩ := mem_zipWith _ _ _ _ hcc
    have hC := hS.contigs _ (mem_zip_of_get _ _ _ _ _ h2 h4)
    refine ⟨nameOK_bytes _ hC.name, by simpa using hC.cnt, ?_⟩
    intro g hg
    simp only [List.mem_map] at hg
    obtain ⟨d, hd, rfl⟩ := hg
    obtain ⟨j, hj⟩ := List.mem_iff_getElem?.mp hd
    obtain ⟨G, datas, P, _, hGin, hGid, _, _, _, hids, hdl, _, hid, _⟩ :=
      piece_group cfg inp dec zc outs hok hcodes hw s c j dcs ds d h3 h4 hj
    obtain ⟨hG32, _, hbound, _⟩ := hok.groups G hGin
    have hlen : d.len ≤ ctg.data.length :=
      tilesB_le cfg.k _ _ hC.tiles d.len (List.mem_map.mpr ⟨d, hd, rfl⟩)
    have hl32 : ctg.data.length < 2 ^ 32 := hC.len
    unfold descOf
    simp only [hids]
    refine ⟨by rw [← hGid]; exact hG32, by omega, by omega⟩

theorem catalogue_length (inp : List Writer.Sample) (dec : Decisions) (outs : List GroupOut)
    (h : dec.pieces.length = inp.length) : (catalogue inp dec outs).length = inp.length := by
  unfold catalogue
  simp [List.length_zipWith, h]

theorem catalogue_names (inp : List Writer.Sample) (dec : Decisions) (outs : List GroupOut)
    (h : dec.pieces.length = inp.length) : (catalogue inp dec outs).map (·.name) = inp.map (·.name) := by
  unfold catalogue
  rw [List.map_zipWith]
  exact zipWith_fst (fun s : Writer.Sample => s.name) inp dec.pieces h

theorem catalogue_tables (inp : List Writer.Sample) (dec : Decisions) (outs : List GroupOut) :
    (catalogue inp dec outs).map tableOfSample
      = List.zipWith (fun s dcs => tableOf outs s.contigs dcs) inp dec.pieces := by
  unfold catalogue
  rw [List.map_zipWith]
  apply zipWith_congr_mem
  intro x _
  simp only [tableOfSample, tableOf, List.map_zipWith]

theorem readCollection_ok (zc : Nat → List Nat → List Nat) (cfg : Cfg) (dec : Decisions) (inp : List Writer.Sample)
    (outs : List GroupOut) (o : Opened) (batches : List StoredBatch)
    (h : Opens o (regNames dec) (partList cfg zc inp outs batches))
    (hparse : ∀ b ∈ batches, parseDetailsPart (Spec.readBack (detailsPart zc b)) = .ok (parsedDetails zc b)) :
    readCollection o = .ok ⟨Spec.readBack (samplesPart zc inp),
      batches.map (fun b => Spec.readBack (contigsPart zc b)), batches.map (parsedDetails zc)⟩ := by
  obtain ⟨_, _, p3, p4, p5⟩ := partsOf_fixed_names cfg zc inp outs batches
  obtain ⟨st1, hf1, hr1⟩ := h.lookup (checked_mem_regNames dec "collection-samples" (by simp [fixedNamesChecked]))
  obtain ⟨st2, hf2, hr2⟩ := h.lookup (checked_mem_regNames dec "collection-contigs" (by simp [fixedNamesChecked]))
  obtain ⟨st3, hf3, hr3⟩ := h.lookup (checked_mem_regNames dec "collection-details" (by simp [fixedNamesChecked]))
  unfold readCollection findFixed
  rw [str_eq, str_eq, str_eq, hf1, hf2, hf3]
  simp only [bind, Except.bind]
  rw [hr1, hr2, hr3, p3, p4, p5]
  simp only []
  rw [mapM_map_ok _ _ (parsedDetails zc) batches hparse]
  rfl

theorem decodeCatalogue_ok (zc : Nat → List Nat → List Nat) (zd : List Nat → Option (List Nat))
    (hz : ∀ l x, zd (zc l x) = some x) (hne : ∀ l x, zc l x = [] → x = [])
    (cfg : Cfg) (dec : Decisions) (inp : List Writer.Sample) (outs : List GroupOut) (o : Opened)
    (hok : DecOK cfg inp dec) (hcodes : codesOK inp)
    (hw : writeGroups cfg zc (storedAll cfg.k inp dec) dec.groups = some outs)
    (h : Opens o (regNames dec) (partList cfg zc inp outs (storeBatches cfg.segSize cfg.k 50 (catalogue inp dec outs))))
    (hfit : (storeBatches cfg.segSize cfg.k 50 (catalogue inp dec outs)).all (sizesFit zc) = true) (a : Acc) :
    decodeCatalogue zd o cfg.k cfg.segSize a
      = .ok (a, inp.map (·.name), (List.zipWith (fun s dcs => tableOf outs s.contigs dcs) inp dec.pieces).toArray,
          (storeBatches cfg.segSize cfg.k 50 (catalogue inp dec outs)).length) := by
  have hcat := catalogue_ok cfg inp dec zc outs hok hcodes hw
  have hlen := catalogue_length inp dec outs hok.shape
  rw [← catalogue_tables]
  generalize catalogue inp dec outs = cat at h hfit hcat hlen ⊢
  have hrc := readCollection_ok zc cfg dec inp outs o _ h fun b hb => by
    obtain ⟨chunk, rfl⟩ := mem_storeBatches cfg.segSize cfg.k cat b hb
    exact parseDetailsPart_ok zc _ _ _ _ _ _ (List.all_eq_true.mp hfit _ hb)
  have hraw : encodeSampleNames (inp.map (·.name)) ≠ [] := fun hc =>
    Ragc.CollVarint.encode_ne_nil _ (List.append_eq_nil_iff.mp hc).1
  have hsp : Spec.readBack (samplesPart zc inp)
      = (zc levelSamples (encodeSampleNames (inp.map (·.name))), (encodeSampleNames (inp.map (·.name))).length) :=
    readBack_eq fun hc => absurd (hne _ _ hc) hraw
  have hnames := Ragc.Props.C03.sample_names_roundtrip (inp.map (·.name)) (by rw [List.length_map]; exact hok.nS)
    fun n hnm => by
      obtain ⟨s, hs, rfl⟩ := List.mem_map.mp hnm
      rw [← List.map_fst_zip (l₂ := dec.pieces) (Nat.le_of_eq hok.shape.symm)] at hs
      obtain ⟨x, hx, rfl⟩ := List.mem_map.mp hs
      exact nameOK_bytes _ (hok.samples x hx).name
  have hnB : (storeBatches cfg.segSize cfg.k 50 cat).length = (inp.length + packCard - 1) / packCard := by
    rw [storeBatches_length, hlen]; rfl
  have hloop := batchLoop_ok zc zd hz hne cfg.k cfg.segSize hok.pred inp.length _ a cat 0 0 #[] hcat
    (by rw [hlen, Nat.zero_add]) (by rw [Nat.zero_add, hnB])
  unfold decodeCatalogue
  rw [hrc]
  simp only [bind, Except.bind, hsp, hz, pure, Except.pure, if_true, hnames, List.length_map]
  rw [if_pos ⟨hnB, hnB⟩, hloop]
  simp [hlen]

end Catalogue

section Composition
open Ragc.Agc3 Ragc.Writer Ragc.Container Ragc.StreamNames

/-- the x-stream record of a name -/
def xOf (parts : List (List Nat × Blob)) (n : List Nat) : Option XStream :=
  match parseXName n with
  | none => none
  | some (g, kd) => some ⟨n, g, kd, partsOf parts n⟩

theorem xStreams_eq (o : Opened) (names : List (List Nat)) (parts : List (List Nat × Blob))
    (h : Opens o names parts) : xStreams o = .ok (names.filterMap (xOf parts)) := by
  unfold xStreams
  rw [filterMapM_ok _ (fun st => xOf parts st.name)]
  · rw [← h.dir, List.filterMap_map]
    rfl
  · intro st hst
    unfold xOf
    cases hp : parseXName st.name with
    | none => rfl
    | some gk =>
      obtain ⟨g, kd⟩ := gk
      simp only [h.read st hst, bind, Except.bind, pure, Except.pure]

theorem parseXName_of_not_isX (n : List Nat) (h : isX n = false) : parseXName n = none := by
  unfold parseXName
  split
  · cases h
  · rfl

theorem xName_delta (g : Nat) : xName g .delta = deltaName g := by
  simp [xName, deltaName, kindChar, chX, chD, b64Encode_eq]

theorem xName_ref (g : Nat) : xName g .ref = refName g := by
  simp [xName, refName, kindChar, chX, chR, b64Encode_eq]

/-- the two records of a group -/
def xPair (parts : List (List Nat × Blob)) (g : Nat) : List XStream :=
  [⟨deltaName g, g, .delta, partsOf parts (deltaName g)⟩, ⟨refName g, g, .ref, partsOf parts (refName g)⟩]

theorem filterMap_regNames (dec : Decisions) (parts : List (List Nat × Blob)) :
    (regNames dec).filterMap (xOf parts) = (dec.groups.map (·.id)).flatMap (xPair parts) := by
  rw [regNames_eq, List.filterMap_append]
  have h1 : fixedStreamNames.filterMap (xOf parts) = [] := by
    apply List.filterMap_eq_nil_iff.mpr
    intro n hn
    unfold xOf
    rw [parseXName_of_not_isX n (fixed_not_x n hn)]
  rw [h1, List.nil_append]
  generalize dec.groups.map (·.id) = ids
  induction ids with
  | nil => rfl
  | cons g ids ih =>
    show List.filterMap (xOf parts) (deltaName g :: refName g :: groupNames ids) = _
    rw [List.flatMap_cons, xPair, ← xName_delta, ← xName_ref]
    simp only [List.filterMap_cons, xOf, parseXName_xName, ih]
    rfl

/-- the record `addStream` builds for a group with one `d` and one `r` stream -/
def groupRec (parts : List (List Nat × Blob)) (g : Nat) : Group :=
  ⟨g, 1, 1, partsOf parts (refName g), partsOf parts (deltaName g)⟩

theorem addStream_pair (parts : List (List Nat × Blob)) (gs : Array Group) (g : Nat)
    (hnew : ∀ x ∈ gs, x.id ≠ g) :
    (xPair parts g).foldl addStream gs = gs.push (groupRec parts g) := by
  simp only [xPair, List.foldl_cons, List.foldl_nil]
  have h1 : addStream gs ⟨deltaName g, g, .delta, partsOf parts (deltaName g)⟩
      = gs.push ⟨g, 0, 1, [], partsOf parts (deltaName g)⟩ := by
    unfold addStream
    simp only []
    rw [Array.findIdx?_eq_none_iff.mpr (fun x hx => by simpa using hnew x hx)]
    rfl
  rw [h1]
  unfold addStream
  simp only []
  rw [Array.findIdx?_push, Array.findIdx?_eq_none_iff.mpr (fun x hx => by simpa using hnew x hx)]
  simp only [beq_self_eq_true, if_true, Option.none_or]
  apply Array.ext
  · simp
  · intro i h1 h2
    simp only [Array.size_push] at h2
    by_cases hi : i = gs.size
    · subst hi
      simp [Array.getElem_modify, groupRec]
    · have : i < gs.size := by simp at h1; omega
      simp [Array.getElem_modify, Array.getElem_push, this, Ne.symm hi]

theorem addStream_all (parts : List (List Nat × Blob)) : ∀ (ids : List Nat) (gs : Array Group),
    ids.Nodup → (∀ x ∈ gs, x.id ∉ ids) →
    (ids.flatMap (xPair parts)).foldl addStream gs = gs ++ (ids.map (groupRec parts)).toArray := by
  intro ids
  induction ids with
  | nil => intro gs _ _; simp
  | cons g ids ih =>
    intro gs hnd hnew
    simp only [List.nodup_cons] at hnd
    rw [List.flatMap_cons, List.foldl_append, addStream_pair parts gs g (fun x hx hc => hnew x hx (by simp [hc]))]
    rw [ih _ hnd.2 (by
      intro x hx
      simp only [Array.mem_push] at hx
      rcases hx with hx | hx
      · exact fun hc => hnew x hx (by simp [hc])
      · subst hx
        exact hnd.1)]
    apply Array.ext'
    simp only [Array.toList_append, Array.toList_push, List.map_cons, List.append_assoc, List.singleton_append]

/-- `decodeGroups` up to the decoding of the groups: on a directory with the registered names every
`x` name is canonical and `addStream` collects one record per group, in creation order. -/
theorem decodeGroups_eq (zd : List Nat → Option (List Nat)) (o : Opened) (dec : Decisions)
    (parts : List (List Nat × Blob)) (h : Opens o (regNames dec) parts) (hnd : (dec.groups.map (·.id)).Nodup)
    (a : Acc) :
    decodeGroups zd o a
      = .ok (((dec.groups.map (·.id)).map (groupRec parts)).foldl (decodeGroup zd) (a, #[])) := by
  unfold decodeGroups
  rw [xStreams_eq o _ _ h, filterMap_regNames]
  simp only [bind, Except.bind, pure, Except.pure]
  rw [foldl_keep _ a _ (by
    intro x hx b
    obtain ⟨g, _, hx⟩ := List.mem_flatMap.mp hx
    simp only [xPair, List.mem_cons, List.not_mem_nil, or_false] at hx
    rcases hx with rfl | rfl
    · rw [if_pos (xName_delta g).symm]
    · rw [if_pos (xName_ref g).symm]),
    addStream_all _ _ #[] hnd (by intro x hx; simp at hx), ← Array.foldl_toList]
  simp only [Array.toList_append, List.nil_append]

/-- the plan of a group: its members' stored data, planned -/
def planOf (cfg : Cfg) (stored : List (List (List (List Nat)))) (G : GroupDec) : Option GroupPlan :=
  (G.members.mapM (lookup3 stored)).bind (planGroup cfg.minMatch G)

theorem writeGroups_plans (cfg : Cfg) (zc : Nat → List Nat → List Nat) (stored : List (List (List (List Nat)))) :
    ∀ (gs : List GroupDec) (outs : List GroupOut), writeGroups cfg zc stored gs = some outs →
      ∃ Ps, gs.mapM (planOf cfg stored) = some Ps ∧
        outs = List.zipWith (fun G P => storeGroup cfg zc G.tuples P) gs Ps := by
  intro gs
  induction gs with
  | nil =>
    intro outs h
    cases h
    exact ⟨[], rfl, rfl⟩
  | cons G gs ih =>
    intro outs h
    rw [writeGroups, List.mapM_cons] at h
    obtain ⟨o, ho, h⟩ := Option.bind_eq_some_iff.mp h
    obtain ⟨os, hos, h⟩ := Option.bind_eq_some_iff.mp h
    cases h
    obtain ⟨datas, hm, ho⟩ := Option.bind_eq_some_iff.mp ho
    obtain ⟨P, hp, rfl⟩ := Option.map_eq_some_iff.mp ho
    obtain ⟨Ps, hPs, rfl⟩ := ih os hos
    exact ⟨P :: Ps, by rw [List.mapM_cons, planOf, hm, Option.bind_some, hp, hPs]; rfl, rfl⟩

theorem readBack_storeGroup (cfg : Cfg) (zc : Nat → List Nat → List Nat) (t : Bool) (P : GroupPlan) :
    (storeGroup cfg zc t P).refPart.toList.map Spec.readBack = (storeGroup cfg zc t P).refPart.toList ∧
    (storeGroup cfg zc t P).packs.map Spec.readBack = (storeGroup cfg zc t P).packs := by
  unfold storeGroup
  constructor
  · cases P.ref with
    | none => rfl
    | some r => exact congrArg (· :: []) (readBack_framePart _ _ _)
  · simp only [List.map_map]
    apply List.map_congr_left
    intro es _
    exact readBack_framePart _ _ _

/-- the `Group` record of a stored group -/
def recOf (o : GroupOut) : Group := ⟨o.id, 1, 1, o.refPart.toList, o.packs⟩

/-- the decoded groups of the plans `Ps` of the groups `gs` -/
def gdsOf (cfg : Cfg) (zc : Nat → List Nat → List Nat) (gs : List GroupDec) (Ps : List GroupPlan) : List GroupD :=
  List.zipWith (fun P G => gdOf cfg zc G.tuples P) Ps gs

theorem gdsOf_ids (cfg : Cfg) (zc : Nat → List Nat → List Nat) (gs : List GroupDec) (Ps : List GroupPlan)
    (hl : gs.length = Ps.length) : (gdsOf cfg zc gs Ps).map (·.id) = Ps.map (·.id) := by
  unfold gdsOf
  rw [List.map_zipWith]
  exact zipWith_fst (·.id) Ps gs hl

theorem decodeGroup_fold (zc : Nat → List Nat → List Nat) (zd : List Nat → Option (List Nat))
    (hz : ∀ l x, zd (zc l x) = some x) (hne : ∀ l x, zc l x = [] → x = []) (cfg : Cfg)
    (gs : List GroupDec) (Ps : List GroupPlan) (a : Acc) (acc : Array GroupD)
    (hl : gs.length = Ps.length) (hP : ∀ P ∈ Ps, PlanOK P) :
    (List.zipWith (fun G P => recOf (storeGroup cfg zc G.tuples P)) gs Ps).foldl (decodeGroup zd) (a, acc)
      = (a, acc ++ (gdsOf cfg zc gs Ps).toArray) :=
  foldl_push _ a _ _ acc (by simp [gdsOf, hl]) fun i h1 h2 acc => by
    simp only [gdsOf, List.getElem_zipWith]
    exact decodeGroup_plan zc zd hz hne cfg _ _ (hP _ (List.getElem_mem _)) a acc

/-- `findGroup` with the id of plan `i` finds the decoded group of plan `i` -/
theorem findGroup_gdsOf (cfg : Cfg) (zc : Nat → List Nat → List Nat) (gs : List GroupDec) (Ps : List GroupPlan)
    (hl : gs.length = Ps.length) (hnd : (Ps.map (·.id)).Nodup) (i : Nat) (h1 : i < gs.length) (h2 : i < Ps.length) :
    Agc3.findGroup (gdsOf cfg zc gs Ps).toArray Ps[i].id = some (gdOf cfg zc gs[i].tuples Ps[i]) := by
  have hi : i < (gdsOf cfg zc gs Ps).length := by
    rw [gdsOf, List.length_zipWith, hl, Nat.min_self]; exact h2
  have := find?_key_getElem (·.id) (gdsOf cfg zc gs Ps) (gdsOf_ids cfg zc gs Ps hl ▸ hnd) i hi
  simp only [gdsOf, List.getElem_zipWith] at this
  unfold Agc3.findGroup
  rw [← Array.find?_toList, List.toList_toArray]
  exact this

/-- what `decodeGroups` establishes -/
structure GroupsDecoded (cfg : Cfg) (inp : List Writer.Sample) (dec : Decisions) (gds : Array GroupD) : Prop where
  find : ∀ G ∈ dec.groups, ∀ datas P, G.members.mapM (lookup3 (storedAll cfg.k inp dec)) = some datas →
    planGroup cfg.minMatch G datas = some P → ∃ GD, Agc3.findGroup gds G.id = some GD ∧ GDMatches GD P
  ids : ∀ GD ∈ gds.toList, GD.id ∈ dec.groups.map (·.id)

theorem decodeGroups_ok (zc : Nat → List Nat → List Nat) (zd : List Nat → Option (List Nat))
    (hz : ∀ l x, zd (zc l x) = some x) (hne : ∀ l x, zc l x = [] → x = [])
    (cfg : Cfg) (inp : List Writer.Sample) (dec : Decisions) (outs : List GroupOut)
    (batches : List Ragc.Details.StoredBatch) (o : Opened)
    (hok : DecOK cfg inp dec) (hcodes : codesOK inp)
    (hw : writeGroups cfg zc (storedAll cfg.k inp dec) dec.groups = some outs)
    (h : Opens o (regNames dec) (partList cfg zc inp outs batches)) (a : Acc) :
    ∃ gds, decodeGroups zd o a = .ok (a, gds) ∧ GroupsDecoded cfg inp dec gds := by
  obtain ⟨Ps, hPs, houts⟩ := writeGroups_plans cfg zc _ _ _ hw
  obtain ⟨hPl, hPall⟩ := mapM_option_spec _ _ _ hPs
  have hoids := outs_ids cfg zc _ _ _ hw
  have hplan : ∀ i (h1 : i < dec.groups.length) (h2 : i < Ps.length),
      ∃ datas, dec.groups[i].members.mapM (lookup3 (storedAll cfg.k inp dec)) = some datas ∧
        planGroup cfg.minMatch dec.groups[i] datas = some Ps[i] :=
    fun i h1 h2 => Option.bind_eq_some_iff.mp (hPall i h1 h2)
  have hPids : Ps.map (·.id) = dec.groups.map (·.id) :=
    List.ext_getElem (by rw [List.length_map, List.length_map, hPl]) fun t h1 h2 => by
      rw [List.getElem_map, List.getElem_map]
      obtain ⟨dt, _, hpt⟩ := hplan t (by simpa using h2) (by simpa using h1)
      exact planGroup_spec_id _ _ _ _ hpt
  have hPok : ∀ P ∈ Ps, PlanOK P := by
    intro P hP
    obtain ⟨i, hi, rfl⟩ := List.getElem_of_mem hP
    obtain ⟨datas, hdat, hpl⟩ := hplan i (hPl ▸ hi) hi
    exact (planGroup_spec cfg.minMatch _ datas _ hpl
      (stored_nonempty_codesOK cfg inp dec hok hcodes _ datas hdat)).2.1
  have hfold := decodeGroup_fold zc zd hz hne cfg dec.groups Ps a #[] hPl.symm hPok
  have hrec : (dec.groups.map (·.id)).map (groupRec (partList cfg zc inp outs batches))
      = List.zipWith (fun G P => recOf (storeGroup cfg zc G.tuples P)) dec.groups Ps := by
    rw [← List.map_zipWith (f := recOf), ← houts, ← hoids, List.map_map]
    apply List.map_congr_left
    intro x hx
    obtain ⟨e1, e2⟩ := partsOf_group cfg zc inp outs batches (hoids ▸ hok.nodup) x hx
    obtain ⟨_, G, P, _, _, rfl⟩ := mem_zipWith _ _ _ _ (houts ▸ hx)
    simp only [Function.comp, groupRec, recOf, e1, e2]
    rw [(readBack_storeGroup _ _ _ _).1, (readBack_storeGroup _ _ _ _).2]
  refine ⟨(gdsOf cfg zc dec.groups Ps).toArray, ?_, ?_, ?_⟩
  · rw [decodeGroups_eq zd o dec _ h hok.nodup, hrec, hfold, Array.empty_append]
  · intro G hG datas P hdat hpl
    obtain ⟨i, hi, rfl⟩ := List.getElem_of_mem hG
    have hi' : i < Ps.length := hPl ▸ hi
    obtain ⟨datas', hdat', hpl'⟩ := hplan i hi hi'
    rw [hdat] at hdat'
    cases hdat'
    rw [hpl] at hpl'
    cases hpl'
    rw [← planGroup_spec_id _ _ _ _ hpl]
    exact ⟨_, findGroup_gdsOf cfg zc dec.groups Ps hPl.symm (hPids ▸ hok.nodup) i hi hi', gdOf_matches _ _ _ _⟩
  · intro GD hGD
    rw [← hPids, ← gdsOf_ids cfg zc dec.groups Ps hPl.symm]
    exact List.mem_map_of_mem hGD

/-- every group id is the group of some descriptor of the catalogue tables -/
theorem group_used (cfg : Cfg) (inp : List Writer.Sample) (dec : Decisions) (outs : List GroupOut)
    (hok : DecOK cfg inp dec) (G : GroupDec) (hG : G ∈ dec.groups) :
    G.id ∈ ((List.zipWith (fun s dcs => tableOf outs s.contigs dcs) inp dec.pieces).flatMap
      fun t => t.flatMap (·.2)).map (·.group) := by
  obtain ⟨_, hne, _, hmem⟩ := hok.groups G hG
  obtain ⟨r0, rest, hr⟩ := List.exists_cons_of_ne_nil hne
  obtain ⟨d, hl, hdg, _⟩ := hmem (r0, 0) (by rw [hr]; simp [List.zipIdx_cons])
  obtain ⟨dcs, ds, h3, h4, h5⟩ := lookup3_get _ _ _ hl
  have hs : r0.1 < inp.length := by
    rw [← hok.shape]; exact (List.getElem?_eq_some_iff.mp h3).1
  have h1 : inp[r0.1]? = some inp[r0.1] := List.getElem?_eq_getElem hs
  have hS := hok.samples _ (mem_zip_of_get _ _ _ _ _ h1 h3)
  have hc : r0.2.1 < inp[r0.1].contigs.length := by
    have hsh : dcs.length = inp[r0.1].contigs.length := hS.shape
    rw [← hsh]; exact (List.getElem?_eq_some_iff.mp h4).1
  have h2 : inp[r0.1].contigs[r0.2.1]? = some inp[r0.1].contigs[r0.2.1] := List.getElem?_eq_getElem hc
  apply List.mem_map.mpr
  refine ⟨descOf outs d, ?_, hdg⟩
  apply List.mem_flatMap.mpr
  refine ⟨tableOf outs inp[r0.1].contigs dcs, List.mem_of_getElem? (zipWith_get _ _ _ _ _ _ h1 h3), ?_⟩
  apply List.mem_flatMap.mpr
  refine ⟨(inp[r0.1].contigs[r0.2.1].name, ds.map (descOf outs)), ?_, ?_⟩
  · unfold tableOf
    exact List.mem_of_getElem? (zipWith_get _ _ _ _ _ _ h2 h4)
  · exact List.mem_map.mpr ⟨d, List.mem_of_getElem? h5, rfl⟩

theorem checkUnused_ok (gds : Array GroupD) (usedIds : List Nat) (a : Acc)
    (h : ∀ GD ∈ gds.toList, GD.id ∈ usedIds) : checkUnused gds usedIds a = a := by
  unfold checkUnused
  rw [← Array.foldl_toList]
  apply foldl_keep
  intro GD hGD b
  rw [if_pos (Or.inr (by simpa using h GD hGD))]

theorem writeArchive_unpack (cfg : Cfg) (inp : List Writer.Sample) (dec : Decisions) (zc : Nat → List Nat → List Nat)
    (bs : List Nat) (h : writeArchive cfg inp dec zc = some bs) :
    ∃ outs, writeGroups cfg zc (storedAll cfg.k inp dec) dec.groups = some outs ∧
      (Ragc.Details.storeBatches cfg.segSize cfg.k 50 (catalogue inp dec outs)).all (sizesFit zc) = true ∧
      (∀ nb ∈ partList cfg zc inp outs (Ragc.Details.storeBatches cfg.segSize cfg.k 50 (catalogue inp dec outs)),
        nb.2.2 < 2 ^ 64) ∧
      bs = close (run (archiveOps (regNames dec)
        (partList cfg zc inp outs (Ragc.Details.storeBatches cfg.segSize cfg.k 50 (catalogue inp dec outs))))) ∧
      bs.length ≤ seekMax := by
  unfold writeArchive at h
  cases hw : writeGroups cfg zc (storedAll cfg.k inp dec) dec.groups with
  | none => rw [hw] at h; simp at h
  | some outs =>
    rw [hw] at h
    simp only [] at h
    split at h
    · rename_i hc
      split at h
      · rename_i hl
        simp only [Option.some.injEq] at h
        simp only [Bool.and_eq_true, List.all_eq_true, decide_eq_true_eq] at hc
        exact ⟨outs, rfl, List.all_eq_true.mpr hc.1, hc.2, h.symm, by rw [← h]; exact hl⟩
      · simp at h
    · simp at h

/-- The decoder opens the written bytes: the directory lists `regNames dec` and every stream reads
back the parts `partList` buffered under its name. -/
theorem written_opens (cfg : Cfg) (inp : List Writer.Sample) (dec : Decisions) (zc : Nat → List Nat → List Nat)
    (bs : List Nat) (hok : DecOK cfg inp dec) (hw : writeArchive cfg inp dec zc = some bs) :
    ∃ outs o, writeGroups cfg zc (storedAll cfg.k inp dec) dec.groups = some outs ∧
      (Ragc.Details.storeBatches cfg.segSize cfg.k 50 (catalogue inp dec outs)).all (sizesFit zc) = true ∧
      openArchive bs = .ok o ∧
      Opens o (regNames dec) (partList cfg zc inp outs
        (Ragc.Details.storeBatches cfg.segSize cfg.k 50 (catalogue inp dec outs))) := by
  obtain ⟨outs, hwg, hfit, hmd, hbs, hlen⟩ := writeArchive_unpack cfg inp dec zc bs hw
  obtain ⟨o, hopen, hdir, hread⟩ := archive_opens (regNames dec) _ (regNames_nodup dec hok.nodup) (regNames_nz dec)
    (partList_names cfg zc inp dec outs _ (outs_ids cfg zc _ _ _ hwg)) hmd (hbs ▸ hlen)
  exact ⟨outs, o, hwg, hfit, hbs ▸ hopen, hdir, hread⟩

/-- **decode ∘ write = id**, Lemma form (see `Props.C01.read_write`). -/
theorem read_write_main (cfg : Cfg) (inp : List Writer.Sample) (dec : Decisions)
    (zc : Nat → List Nat → List Nat) (zd : List Nat → Option (List Nat)) (bs : List Nat)
    (hdec : DecisionsOK cfg inp dec) (hz : ∀ l x, zd (zc l x) = some x) (hne : ∀ l x, zc l x = [] → x = [])
    (hcodes : codesOK inp) (hw : writeArchive cfg inp dec zc = some bs) :
    ∃ d, decodeArchive bs zd = .ok d ∧ d.catalogue = catalogueOf inp ∧ d.bases = basesOf inp ∧
      d.violations = [] ∧ d.k = cfg.k ∧ d.mm = cfg.minMatch ∧ d.segSize = cfg.segSize := by
  have hok := decOK_of cfg inp dec hdec
  obtain ⟨outs, o, hwg, hfit, hopen, hO⟩ := written_opens cfg inp dec zc bs hok hw
  have h1 := checkFixedStreams_ok o _ _ hO (regNames_nodup dec hok.nodup)
    (checked_mem_regNames dec) {}
  have h2 := checkTypeInfo_ok o dec cfg zc inp outs _ hO {}
  have h3 := readParams_ok o dec cfg zc inp outs _ hO hok.k32 hok.mm32 hok.seg32 {}
  have h4 := decodeCatalogue_ok zc zd hz hne cfg dec inp outs o hok hcodes hwg hO hfit {}
  obtain ⟨gds, h5, hG⟩ := decodeGroups_ok zc zd hz hne cfg inp dec outs _ o hok hcodes hwg hO {}
  have h6 := checkUnused_ok gds
    ((((List.zipWith (fun s dcs => tableOf outs s.contigs dcs) inp dec.pieces).toArray.toList.flatMap
      fun t => t.flatMap (·.2)).map (·.group)).eraseDups) {} (by
      intro GD hGD
      obtain ⟨G, hGin, hGid⟩ := List.mem_map.mp (hG.ids GD hGD)
      rw [List.mem_eraseDups, List.toList_toArray, ← hGid]
      exact group_used cfg inp dec outs hok G hGin)
  have h7 := decodeSamples_ok cfg inp dec zc outs hok hcodes hwg gds hG.find {}
  obtain ⟨e1, e2⟩ := expected_samples cfg inp dec outs hok
  have hD : ∃ st, decodeArchive bs zd = .ok ⟨cfg.k, cfg.minMatch, cfg.segSize,
      List.zipWith (fun s dcs => (⟨s.name, contigsOf outs s.contigs dcs⟩ : DSample)) inp dec.pieces, [], st⟩ :=
    ⟨_, by
      unfold decodeArchive
      rw [hopen]
      simp only [bind, Except.bind, h1, h2, h3, h4, h5, h6, h7, pure, Except.pure]
      rfl⟩
  obtain ⟨st, hD⟩ := hD
  refine ⟨_, hD, ?_, ?_, rfl, rfl, rfl, rfl⟩
  · simpa [Decoded.catalogue] using e1
  · simpa [Decoded.bases] using e2

/-- The reference writer's output is accepted by the repaired container reader, with every part
inside the file (C14 link); no hypothesis on the decisions. -/
theorem writer_output_opens (cfg : Cfg) (inp : List Writer.Sample) (dec : Decisions)
    (zc : Nat → List Nat → List Nat) (bs : List Nat) (hw : writeArchive cfg inp dec zc = some bs) :
    ∃ r, openBytesFixed seekMax bs = .ok r ∧ r.file = bs ∧ partsInFile bs.length r.dir = true := by
  obtain ⟨outs, _, _, hmd, hbs, hlen⟩ := writeArchive_unpack cfg inp dec zc bs hw
  have h := rel_run _ (archiveOps_ok _ _ (regNames_nz dec) hmd)
  have hopen := openBytesFixed_close h seekMax (by decide) (by rw [← hbs]; exact hlen)
  rw [← hbs] at hopen
  exact ⟨_, hopen, (openBytesFixed_ok hopen).1, (openBytesFixed_ok hopen).2⟩

end Composition

end Ragc.WriterLemmas
