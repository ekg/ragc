import RagcModel.Lemmas.Queue
/-!
The link between the two granularities of the bounded priority queue: `Model/Queue.lean` (threads
inside calls, two condition variables, `notify_one` with an arbitrary choice, spurious wake-ups) and
the queue of completed calls inside `Model/Pipeline.lean` (`push x` is one atomic step enabled iff
`open ∧ (cur + size ≤ cap ∨ empty)`, `pull` takes any maximal item, `exit` iff `closed ∧ empty`).

`AbsQ` / `astep` is the completed-call queue over the items of the Queue model, `State.abs` the
abstraction, `trace` the projection of event sequences. Refinement: the projection of a run is a run
of `AbsQ` that ends in the abstraction of the state reached. Progress: a thread inside a call has an
enabled step of its own or sleeps for a cause, and the measure `mu` bounds every sequence of steps
that are neither spurious wake-ups nor new calls.
-/
namespace Ragc.Queue
open TStatus

/-- `QueueInner` without the byte counter: `current_size` is recomputed from the items, as in
`Pipeline.State.cur`. -/
structure AbsQ where
  items : List Item
  closed : Bool
deriving DecidableEq, Repr

namespace AbsQ
/-- `current_size` -/
def cur (a : AbsQ) : Nat := sizeSum a.items
def init : AbsQ := ⟨[], false⟩
/-- the guard of a completed `push` (`Pipeline.pushGuard true`) -/
def canPush (cap : Nat) (a : AbsQ) (x : Item) : Prop :=
  a.closed = false ∧ (a.cur + x.size ≤ cap ∨ a.items = [])
/-- the guard of a completed `pull` returning `x` (`Pipeline.isMax`) -/
def canPull (a : AbsQ) (x : Item) : Prop := x ∈ a.items ∧ ∀ y ∈ a.items, y.prio ≤ x.prio
/-- the guard of a completed `pull` returning `None` -/
def canExit (a : AbsQ) : Prop := a.closed = true ∧ a.items = []
instance (cap : Nat) (a : AbsQ) (x : Item) : Decidable (canPush cap a x) := by
  unfold canPush; exact inferInstance
instance (a : AbsQ) (x : Item) : Decidable (canPull a x) := by unfold canPull; exact inferInstance
instance (a : AbsQ) : Decidable (canExit a) := by unfold canExit; exact inferInstance
end AbsQ

/-- A completed call (`t` = the calling thread, ignored by the guards). -/
inductive AOp where
  | push (t : Nat) (x : Item)
  | pull (t : Nat) (x : Item)
  | exit (t : Nat)
  | close (t : Nat)
deriving DecidableEq, Repr

/-- One completed call: `none` = not enabled. -/
def astep (cap : Nat) (a : AbsQ) : AOp → Option AbsQ
  | .push _ x => if a.canPush cap x then some { a with items := x :: a.items } else none
  | .pull _ x => if a.canPull x then some { a with items := a.items.erase x } else none
  | .exit _ => if a.canExit then some a else none
  | .close _ => some { a with closed := true }

def arun (cap : Nat) : AbsQ → List AOp → Option AbsQ
  | a, [] => some a
  | a, o :: os =>
    match astep cap a o with
    | some a' => arun cap a' os
    | none => none

/-- The abstraction function: forget the threads, the history and the byte counter. -/
def State.abs (s : State) : AbsQ := ⟨s.items, s.closed⟩

/-- The completed call that event `e` stands for when it happens in state `s`: the linearisation
points (`pushAdmit`, `tryPushAdmit` ↦ push, `pullTake`, `tryPullTake` ↦ pull, `pullEos` ↦ exit,
`close` ↦ close); every other event (enter, wait, wake, spurious wake, refuse, would-block,
try-pull-empty) is a stutter. The item of a `pushAdmit` is the one the thread carries. -/
def opOf (s : State) : Event → Option AOp
  | .pushAdmit t _ => (s.thr[t]?.bind item?).map (AOp.push t)
  | .tryPushAdmit t it _ => some (.push t it)
  | .pullTake t it _ => some (.pull t it)
  | .tryPullTake t it _ => some (.pull t it)
  | .pullEos t => some (.exit t)
  | .close t => some (.close t)
  | _ => none

/-- The projection of an event sequence executed from `s` (it stops where the run stops). -/
def trace (cap : Nat) : State → List Event → List AOp
  | _, [] => []
  | s, e :: es =>
    match step cap s e with
    | some s' => (opOf s e).toList ++ trace cap s' es
    | none => []

/-- The same projection read off the linearisation history (oldest first). -/
def HEv.op : HEv → Option AOp
  | .accept t x => some (.push t x)
  | .take t x => some (.pull t x)
  | .eos t => some (.exit t)
  | .close t => some (.close t)
  | _ => none

def histOps (h : List HEv) : List AOp := h.reverse.filterMap HEv.op

theorem arun_cons (cap : Nat) (a : AbsQ) (o : AOp) (os : List AOp) :
    arun cap a (o :: os) = (astep cap a o).bind (fun a' => arun cap a' os) := by
  simp only [arun]; cases astep cap a o <;> rfl

theorem arun_append (cap : Nat) (a : AbsQ) (os ps : List AOp) :
    arun cap a (os ++ ps) = (arun cap a os).bind (fun a' => arun cap a' ps) := by
  induction os generalizing a with
  | nil => rfl
  | cons o os ih =>
    rw [List.cons_append, arun_cons, arun_cons]
    cases astep cap a o with
    | none => rfl
    | some a' => exact ih a'

theorem abs_setT (s : State) (t : Nat) (st : TStatus) : (s.setT t st).abs = s.abs := rfl

section
variable {cap : Nat} {s s' : State} {e : Event}

theorem opOf_eq_lin {a : TStatus} (ht : s.thr[e.tid]? = some a) :
    opOf s e = (e.lin a).bind HEv.op := by
  cases e with
  | pushAdmit t w =>
    simp only [Event.tid] at ht
    simp only [opOf, Event.lin, ht, Option.bind_some]
    cases a.item? <;> rfl
  | pushRefuse t => show none = (a.item?.map (HEv.refuse t)).bind HEv.op; cases a.item? <;> rfl
  | _ => rfl

theorem arun_one {cap : Nat} {a a' : AbsQ} {o : AOp} (h : astep cap a o = some a') :
    arun cap a [o] = some a' := by
  rw [arun_cons, h]; rfl

/-- A linearisation event whose guard holds is an enabled completed call with the same effect on
`(items, closed)`, or no call at all. -/
theorem arun_lin {ev : HEv} (hc : s.cur = sizeSum s.items) (hok : ev.ok cap s.items s.cur s.closed) :
    arun cap s.abs ev.op.toList = some (s.lin ev).abs := by
  cases ev with
  | accept t x =>
    exact arun_one (if_pos
      ⟨hok.1, show sizeSum s.items + x.size ≤ cap ∨ s.items = [] from hc ▸ hok.2⟩)
  | take t x => exact arun_one (if_pos (show s.abs.canPull x from hok))
  | eos t => exact arun_one (if_pos (show s.abs.canExit from hok))
  | _ => rfl

theorem refines_step (hc : s.cur = sizeSum s.items) (hs : step cap s e = some s') :
    arun cap s.abs (opOf s e).toList = some s'.abs ∧ s'.cur = sizeSum s'.items := by
  obtain ⟨a, ht, -, h⟩ := step_lin (step_sound hs)
  rw [opOf_eq_lin ht]
  split at h
  · next hl => obtain ⟨l, rfl⟩ := h; rw [hl]; exact ⟨rfl, hc⟩
  · next ev hl => obtain ⟨hok, l, rfl⟩ := h; rw [hl]; exact ⟨arun_lin hc hok, State.lin_cur hc hok⟩

theorem trace_cons {s1 : State} (hs : step cap s e = some s1) (es : List Event) :
    trace cap s (e :: es) = (opOf s e).toList ++ trace cap s1 es := by
  simp only [trace, hs]

/-- Refinement from any state whose byte counter is right: the projected sequence is a run of the
completed-call queue from the abstraction of the start state to the abstraction of the end state. -/
theorem refines_run {cap : Nat} {evs : List Event} {s0 s : State}
    (hc : s0.cur = sizeSum s0.items) (hr : run cap s0 evs = some s) :
    arun cap s0.abs (trace cap s0 evs) = some s.abs ∧ s.cur = sizeSum s.items :=
  run_induction
    (motive := fun s0 evs s => s0.cur = sizeSum s0.items →
      arun cap s0.abs (trace cap s0 evs) = some s.abs ∧ s.cur = sizeSum s.items)
    (fun _ hc => ⟨rfl, hc⟩)
    (fun hs _ ih hc => by
      obtain ⟨h1, hc1⟩ := refines_step hc hs
      rw [trace_cons hs, arun_append, h1]
      exact ih hc1)
    hr hc

theorem arun_split {cap : Nat} {a a' : AbsQ} {pre post : List AOp} {o : AOp}
    (h : arun cap a (pre ++ o :: post) = some a') :
    ∃ a1 a2, arun cap a pre = some a1 ∧ astep cap a1 o = some a2 ∧ arun cap a2 post = some a' := by
  rw [arun_append] at h
  obtain ⟨a1, h1, h⟩ := Option.bind_eq_some_iff.mp h
  rw [arun_cons] at h
  obtain ⟨a2, h2, h3⟩ := Option.bind_eq_some_iff.mp h
  exact ⟨a1, a2, h1, h2, h3⟩

/-- the guards and effects of `astep`, spelled out: `o.spec cap a a'` iff `o` is enabled in `a` and
leads to `a'` -/
def AOp.spec (cap : Nat) (a a' : AbsQ) : AOp → Prop
  | .push _ x => a.closed = false ∧ (sizeSum a.items + x.size ≤ cap ∨ a.items = []) ∧
      a' = ⟨x :: a.items, a.closed⟩
  | .pull _ x => x ∈ a.items ∧ (∀ y ∈ a.items, y.prio ≤ x.prio) ∧ a' = ⟨a.items.erase x, a.closed⟩
  | .exit _ => a.closed = true ∧ a.items = [] ∧ a' = a
  | .close _ => a' = ⟨a.items, true⟩

theorem astep_spec {cap : Nat} {a a' : AbsQ} {o : AOp} (h : astep cap a o = some a') :
    o.spec cap a a' := by
  cases o with
  | close => exact (Option.some.inj h).symm
  | _ =>
    simp only [astep, Option.ite_none_right_eq_some, Option.some.injEq] at h
    exact ⟨h.1.1, h.1.2, h.2.symm⟩

theorem histOps_cons (e : HEv) (h : List HEv) : histOps (e :: h) = histOps h ++ (HEv.op e).toList := by
  simp only [histOps, List.reverse_cons, List.filterMap_append, List.filterMap_cons,
    List.filterMap_nil]
  cases HEv.op e <;> rfl

theorem hist_step (hs : step cap s e = some s') :
    histOps s'.hist = histOps s.hist ++ (opOf s e).toList := by
  obtain ⟨a, ht, -, h⟩ := step_lin (step_sound hs)
  rw [opOf_eq_lin ht]
  split at h
  · next hl => obtain ⟨l, rfl⟩ := h; rw [hl]; exact (List.append_nil _).symm
  · next ev hl =>
    obtain ⟨-, l, rfl⟩ := h
    rw [hl]; exact (congrArg histOps (s.lin_hist ev)).trans (histOps_cons ev s.hist)

theorem hist_run {cap : Nat} {evs : List Event} {s0 s : State} (hr : run cap s0 evs = some s) :
    histOps s.hist = histOps s0.hist ++ trace cap s0 evs :=
  run_induction
    (motive := fun s0 evs s => histOps s.hist = histOps s0.hist ++ trace cap s0 evs)
    (fun _ => (List.append_nil _).symm)
    (fun hs _ ih => by rw [ih, hist_step hs, trace_cons hs, List.append_assoc])
    hr

end

def Event.isSpur : Event → Bool
  | .pushSpur _ | .pullSpur _ => true
  | _ => false

/-- the event starts a new call (a thread that is outside the queue enters it) -/
def Event.isStart : Event → Bool
  | .pushEnter _ _ | .pullEnter _ | .tryPushRefuse _ _ | .tryPushWouldBlock _ _
  | .tryPushAdmit _ _ _ | .tryPullEmpty _ | .tryPullTake _ _ _ | .close _ => true
  | _ => false

/-- a step of a call that is already in progress and that the code itself takes: evaluate the loop
condition (`wait`, `refuse`, `accept`, `eos`, `take`) or resume after a notify (`wake`) -/
def Event.isInternal (e : Event) : Bool := !e.isSpur && !e.isStart

/-- inside `pull` -/
def TStatus.inPull : TStatus → Bool
  | .pulling | .waitNE | .notifNE => true
  | _ => false

/-- inside `push` -/
def TStatus.inPush : TStatus → Bool
  | .pushing _ | .waitNF _ | .notifNF _ => true
  | _ => false

theorem idle_of_outside : ∀ {st : TStatus}, st.item? = none → st.inPull = false → st = .idle
  | .idle, _, _ => rfl
  | .pushing _, h, _ | .waitNF _, h, _ | .notifNF _, h, _ => nomatch h
  | .pulling, _, h | .waitNE, _, h | .notifNE, _, h => nomatch h

/-- A thread that is about to evaluate the loop condition of `push` always has an enabled step: it
is refused, accepted or goes to sleep. -/
theorem own_step_pushing (cap : Nat) {s : State} {t : Nat} {it : Item}
    (ht : s.thr[t]? = some (.pushing it)) :
    ∃ e s', e.tid = t ∧ e.isInternal = true ∧ step cap s e = some s' := by
  cases hcl : s.closed with
  | true => exact ⟨.pushRefuse t, _, rfl, rfl, step_complete (.pushRefuse ht hcl)⟩
  | false =>
    by_cases hfit : s.cur + it.size ≤ cap ∨ s.items = []
    · obtain ⟨w, s', hs'⟩ := notifyNE_enabled ((s.setT t .idle).enq t it)
      exact ⟨.pushAdmit t w, s', rfl, rfl,
        step_complete (.pushAdmit ht hfit hcl (notifyNE_iff.mp hs'))⟩
    · exact ⟨.pushWait t, _, rfl, rfl, step_complete (.pushWait ht
        (Nat.lt_of_not_le fun h => hfit (.inl h)) (fun h => hfit (.inr h)) hcl)⟩

/-- A thread that is about to evaluate the loop condition of `pull` always has an enabled step: it
takes a maximal item, reports end-of-stream or goes to sleep. -/
theorem own_step_pulling (cap : Nat) {s : State} {t : Nat} (ht : s.thr[t]? = some .pulling) :
    ∃ e s', e.tid = t ∧ e.isInternal = true ∧ step cap s e = some s' := by
  by_cases he : s.items = []
  · cases hcl : s.closed with
    | true => exact ⟨.pullEos t, _, rfl, rfl, step_complete (.pullEos ht he hcl)⟩
    | false => exact ⟨.pullWait t, _, rfl, rfl, step_complete (.pullWait ht he hcl)⟩
  · obtain ⟨it, hmax⟩ := exists_isMax he
    have hm := isMax_iff.mp hmax
    obtain ⟨w, s', hs'⟩ := notifyNF_enabled ((s.setT t .idle).take t it)
    exact ⟨.pullTake t it w, s', rfl, rfl,
      step_complete (.pullTake ht hm.1 hm.2 (notifyNF_iff.mp hs'))⟩

theorem own_step_notifNF (cap : Nat) {s : State} {t : Nat} {it : Item}
    (ht : s.thr[t]? = some (.notifNF it)) :
    ∃ e s', e.tid = t ∧ e.isInternal = true ∧ step cap s e = some s' :=
  ⟨.pushWake t, _, rfl, rfl, step_complete (.pushWake ht)⟩

theorem own_step_notifNE (cap : Nat) {s : State} {t : Nat} (ht : s.thr[t]? = some .notifNE) :
    ∃ e s', e.tid = t ∧ e.isInternal = true ∧ step cap s e = some s' :=
  ⟨.pullWake t, _, rfl, rfl, step_complete (.pullWake ht)⟩

/-- A thread inside a call that is not asleep has an enabled step of its own. -/
theorem own_step_awake (cap : Nat) {s : State} {t : Nat} {st : TStatus} (ht : s.thr[t]? = some st)
    (hin : st ≠ .idle)
    (h1 : st.isWaitNF = false) (h2 : st.isWaitNE = false) :
    ∃ e s', e.tid = t ∧ e.isInternal = true ∧ step cap s e = some s' := by
  cases st with
  | idle => exact absurd rfl hin
  | pushing => exact own_step_pushing cap ht
  | waitNF => cases h1
  | notifNF => exact own_step_notifNF cap ht
  | pulling => exact own_step_pulling cap ht
  | waitNE => cases h2
  | notifNE => exact own_step_notifNE cap ht

/-- A consumer asleep in `not_empty.wait` (invariant `InvB`): the queue is open, and the queued
items are covered by consumers that are awake inside `pull`; so the queue is empty (both completed
`pull` outcomes are disabled) or another consumer, notified or running, has an enabled internal
step. -/
theorem sleeping_consumer (cap : Nat) {s : State} (hb : InvB s) {t : Nat}
    (ht : s.thr[t]? = some .waitNE) :
    s.closed = false ∧ s.items.length ≤ s.cnt isNotifNE + s.cnt isPulling ∧
    (s.items = [] ∨ ∃ u stu e s', u ≠ t ∧ s.thr[u]? = some stu ∧ (stu = .notifNE ∨ stu = .pulling) ∧
        e.tid = u ∧ e.isInternal = true ∧ step cap s e = some s') := by
  have hw : 0 < s.thr.countP isWaitNE := countP_pos_of_get isWaitNE ht rfl
  have hopen : s.closed = false :=
    Bool.eq_false_iff.mpr fun hc => absurd (hb.closedNE hc ▸ hw) (Nat.lt_irrefl 0)
  have hcov := hb.ne hw
  refine ⟨hopen, hcov, ?_⟩
  by_cases he : s.items = []
  · exact .inl he
  · right
    have hlen : 0 < s.items.length := List.length_pos_iff.mpr he
    have hne : ∀ {u : Nat} {stu : TStatus}, s.thr[u]? = some stu → stu ≠ .waitNE → u ≠ t :=
      fun hu hst hut => hst (Option.some.inj ((hut ▸ hu).symm.trans ht))
    have : 0 < s.thr.countP isNotifNE ∨ 0 < s.thr.countP isPulling := by omega
    rcases this with h | h
    · obtain ⟨u, stu, hu, hp⟩ := exists_of_countP_pos h
      cases stu <;> cases hp
      obtain ⟨e, s', hown⟩ := own_step_notifNE cap hu
      exact ⟨u, _, e, s', hne hu nofun, hu, .inl rfl, hown⟩
    · obtain ⟨u, stu, hu, hp⟩ := exists_of_countP_pos h
      cases stu <;> cases hp
      obtain ⟨e, s', hown⟩ := own_step_pulling cap hu
      exact ⟨u, _, e, s', hne hu nofun, hu, .inr rfl, hown⟩

/-- The producer asleep in `not_full.wait` when only thread `p` calls the blocking `push`
(invariant `InvD`): the completed `push` of its item is disabled. -/
theorem sleeping_producer {cap p : Nat} {s : State} (hd : InvD cap p s) {t : Nat} {it : Item}
    (ht : s.thr[t]? = some (.waitNF it)) :
    t = p ∧ s.cur + it.size > cap ∧ s.items ≠ [] ∧ s.closed = false :=
  ⟨hd.only t _ ht nofun, hd.wait t it ht⟩

/-- outside 0, asleep 2, evaluating the loop condition 3, notified 4. A wake moves 4 → 3, going to
sleep 3 → 2, completing a call 3 → 0 while its `notify_one` moves one sleeper 2 → 4. -/
def TStatus.wt : TStatus → Nat
  | .idle => 0
  | .waitNF _ | .waitNE => 2
  | .pushing _ | .pulling => 3
  | .notifNF _ | .notifNE => 4

def mu (s : State) : Nat := (s.thr.map TStatus.wt).sum

theorem mu_le (s : State) : mu s ≤ 4 * s.thr.length :=
  ListFacts.sum_map_le (fun st => by cases st <;> exact Nat.le_of_ble_eq_true rfl) s.thr

section
variable {s s' : State} {t : Nat} {a : TStatus}

theorem mu_setT (ht : s.thr[t]? = some a) (b : TStatus) :
    mu (s.setT t b) + a.wt = mu s + b.wt :=
  ListFacts.sum_map_set TStatus.wt b ht

theorem Woke.mu_le {l l' : List TStatus} (h : Woke l l') :
    (l'.map TStatus.wt).sum ≤ (l.map TStatus.wt).sum + 2 := by
  cases h with
  | none => exact Nat.le_add_right _ _
  | @one u x hx =>
    have := ListFacts.sum_map_set TStatus.wt (wakeAll x) hx
    have : (wakeAll x).wt ≤ x.wt + 2 := by cases x <;> exact Nat.le_of_ble_eq_true rfl
    omega

theorem mu_lt_of_setT {b : TStatus} (ht : s.thr[t]? = some a) (hw : b.wt < a.wt) :
    mu (s.setT t b) < mu s := by
  have := mu_setT ht b
  omega

/-- a thread that evaluates its loop condition (weight 3) completes its call, and one `notify_one`
follows -/
theorem mu_lt_of_done (ht : s.thr[t]? = some a) (ha : a.wt = 3)
    (hn : mu s' ≤ mu (s.setT t .idle) + 2) : mu s' < mu s := by
  have : mu (s.setT t .idle) + a.wt = mu s + 0 := mu_setT ht .idle
  omega

end

/-- Every internal step (not a spurious wake-up, not a new call) strictly decreases `mu`, in every
state. -/
theorem internal_step_decreases {cap : Nat} {s s' : State} {e : Event}
    (hs : step cap s e = some s') (hi : e.isInternal = true) : mu s' < mu s := by
  cases step_sound hs with
  | pushWait ht | pullWait ht => exact mu_lt_of_setT ht (Nat.lt_succ_self 2)
  | pushWake ht | pullWake ht => exact mu_lt_of_setT ht (Nat.lt_succ_self 3)
  | pushRefuse ht | pullEos ht => exact mu_lt_of_setT (b := .idle) ht (Nat.zero_lt_succ 2)
  | pushAdmit ht _ _ hn | pullTake ht _ _ hn => exact mu_lt_of_done ht rfl hn.woke.mu_le
  | _ => cases hi

/-- Hence a sequence of internal steps from `s` has at most `mu s ≤ 4 · #threads` events. -/
theorem internal_run_bounded {cap : Nat} {evs : List Event} {s s' : State}
    (hr : run cap s evs = some s')
    (hi : ∀ e ∈ evs, e.isInternal = true) :
    evs.length + mu s' ≤ mu s :=
  run_induction
    (motive := fun s evs s' => (∀ e ∈ evs, e.isInternal = true) → evs.length + mu s' ≤ mu s)
    (fun _ _ => Nat.le_of_eq (Nat.zero_add _))
    (fun hs _ ih hi => by
      have h1 := internal_step_decreases hs (hi _ List.mem_cons_self)
      have h2 := ih fun e he => hi e (List.mem_cons_of_mem _ he)
      simp only [List.length_cons]; omega)
    hr hi

/-- no internal step is enabled: every call in progress is asleep -/
def Quiescent (cap : Nat) (s : State) : Prop :=
  ∀ e s', step cap s e = some s' → e.isInternal = false

/-- Where a maximal sequence of internal steps ends (one blocking producer `p`): every thread is
outside the queue, or a consumer asleep on an open empty queue (completed `pull`/`exit` disabled), or
the producer asleep with an item whose completed `push` is disabled. -/
theorem quiescent_blocked {cap p : Nat} {s : State} (hb : InvB s) (hd : InvD cap p s)
    (hq : Quiescent cap s) {st : TStatus} (ht : s.thr[t]? = some st) :
    st = .idle ∨ (st = .waitNE ∧ s.items = [] ∧ s.closed = false) ∨
    (∃ it, st = .waitNF it ∧ t = p ∧ s.cur + it.size > cap ∧ s.items ≠ [] ∧ s.closed = false) := by
  have awake : ∀ {u : Nat}, (∃ e s', e.tid = u ∧ e.isInternal = true ∧ step cap s e = some s') →
      False := fun ⟨_, _, _, hint, hstep⟩ => Bool.false_ne_true ((hq _ _ hstep).symm.trans hint)
  cases st with
  | idle => exact .inl rfl
  | waitNF it => exact .inr (.inr ⟨it, rfl, sleeping_producer hd ht⟩)
  | waitNE =>
    obtain ⟨hopen, _, he | ⟨_, _, e, s', _, _, _, hown⟩⟩ := sleeping_consumer cap hb ht
    · exact .inr (.inl ⟨rfl, he, hopen⟩)
    · exact (awake ⟨e, s', hown⟩).elim
  | pushing | notifNF | pulling | notifNE => exact (awake (own_step_awake cap ht nofun rfl rfl)).elim

theorem step_thr_length {cap : Nat} {s s' : State} {e : Event} (hs : step cap s e = some s') :
    s'.thr.length = s.thr.length := by
  cases step_sound hs with
  | pushAdmit _ _ _ hn | pullTake _ _ _ hn => rw [hn.woke.length]; exact List.length_set
  | tryPushAdmit _ _ _ hn | tryPullTake _ _ _ hn => exact hn.woke.length
  | _ => simp only [State.setT, State.log, List.length_set, List.length_map]

theorem run_thr_length {cap : Nat} {s0 s : State} {evs : List Event}
    (h : run cap s0 evs = some s) :
    s.thr.length = s0.thr.length :=
  run_invariant' (P := fun s => s.thr.length = s0.thr.length)
    (fun hp hs => (step_thr_length hs).trans hp) rfl h

theorem internal_onlyPusher (p : Nat) {e : Event} (h : e.isInternal = true) : OnlyPusher p e := by
  cases e <;> first | exact trivial | cases h

/-- the event ends the call of its thread -/
def Event.ends : Event → Bool
  | .pushEnter _ _ | .pushWait _ | .pushWake _ | .pushSpur _
  | .pullEnter _ | .pullWait _ | .pullWake _ | .pullSpur _ => false
  | _ => true

/-- An event that ends the call of its thread leaves the thread outside the queue, and every other
thread keeps its status or is moved out of a wait set by the notify that comes with the event
(`wakeAll`: `waitNE ↦ notifNE`, `waitNF it ↦ notifNF it`). -/
theorem step_ends_thr {cap : Nat} {s s' : State} {e : Event} (hs : step cap s e = some s')
    (he : e.ends = true) {u : Nat} {st' : TStatus} (hu : s'.thr[u]? = some st') :
    (u = e.tid ∧ st' = .idle) ∨
      (u ≠ e.tid ∧ ∃ st, s.thr[u]? = some st ∧ (st' = st ∨ st' = wakeAll st)) := by
  -- `x` is what `u` reads once the acting thread `t` is outside; then `u` is left alone or woken,
  -- and `wakeAll .idle = .idle`
  have fin : ∀ {t : Nat} {x : TStatus}, (u = t ∧ x = .idle) ∨ (u ≠ t ∧ s.thr[u]? = some x) →
      st' = x ∨ st' = wakeAll x →
      (u = t ∧ st' = .idle) ∨ (u ≠ t ∧ ∃ st, s.thr[u]? = some st ∧ (st' = st ∨ st' = wakeAll st)) :=
    fun hx hrel => hx.elim (fun ⟨hut, hxi⟩ => .inl ⟨hut, (hxi ▸ hrel).elim id id⟩)
      fun ⟨hne, h⟩ => .inr ⟨hne, _, h, hrel⟩
  -- a thread that is outside the queue before
  have idle : ∀ {t : Nat} {x : TStatus}, s.thr[t]? = some .idle → s.thr[u]? = some x →
      (u = t ∧ x = .idle) ∨ (u ≠ t ∧ s.thr[u]? = some x) := fun ht hx =>
    (Decidable.em _).imp (fun hut => ⟨hut, Option.some.inj ((hut ▸ hx).symm.trans ht)⟩) (⟨·, hx⟩)
  cases step_sound hs with
  | pushRefuse | pullEos => exact fin (get_set hu) (.inl rfl)
  | pushAdmit _ _ _ hn | pullTake _ _ _ hn =>
    obtain ⟨x, hx, hrel⟩ := hn.woke.get hu
    exact fin (get_set hx) hrel
  | tryPushRefuse ht | tryPushWouldBlock ht | tryPullEmpty ht => exact fin (idle ht hu) (.inl rfl)
  | tryPushAdmit ht _ _ hn | tryPullTake ht _ _ hn =>
    obtain ⟨x, hx, hrel⟩ := hn.woke.get hu
    exact fin (idle ht hx) hrel
  | close ht =>
    simp only [List.getElem?_map, Option.map_eq_some_iff] at hu
    obtain ⟨st, hst, rfl⟩ := hu
    exact fin (idle ht hst) (.inr rfl)
  | _ => cases he

theorem wakeAll_inPull (st : TStatus) : (wakeAll st).inPull = st.inPull := by cases st <;> rfl
theorem wakeAll_idle {st : TStatus} : wakeAll st = .idle ↔ st = .idle := by
  cases st <;> simp [wakeAll]

end Ragc.Queue
