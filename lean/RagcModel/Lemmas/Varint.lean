import RagcModel.Model.Varint
/-! The length-prefixed varint of the container and the fixed-width integers (C02, C13, C14): digits, lengths,
round trips. -/
namespace Ragc.Varint

theorem digits_zero : digits 0 = [] := by
  rw [digits]; simp

theorem digits_pos {v : Nat} (h : v ≠ 0) : digits v = v % 256 :: digits (v / 256) := by
  rw [digits]; simp [h]

theorem byteLen_zero : byteLen 0 = 0 := congrArg List.length digits_zero

theorem byteLen_pos {v : Nat} (h : v ≠ 0) : byteLen v = byteLen (v / 256) + 1 :=
  congrArg List.length (digits_pos h)

theorem leVal_cons (b : Nat) (bs : List Nat) : leVal (b :: bs) = b + 256 * leVal bs := rfl

theorem leVal_digits (v : Nat) : leVal (digits v) = v := by
  induction v using digits.induct with
  | case1 => rw [digits_zero]; rfl
  | case2 v h ih => rw [digits_pos h, leVal_cons, ih]; exact Nat.mod_add_div v 256

theorem digits_lt (v : Nat) : ∀ b ∈ digits v, b < 256 := by
  induction v using digits.induct with
  | case1 => rw [digits_zero]; exact fun _ hb => absurd hb List.not_mem_nil
  | case2 v h ih =>
    rw [digits_pos h]
    exact List.forall_mem_cons.mpr ⟨Nat.mod_lt v (by decide), ih⟩

/-- `byteLen v` is the number of significant bytes: the least `k` with `v < 256^k`. -/
theorem byteLen_le_iff (v k : Nat) : byteLen v ≤ k ↔ v < 256 ^ k := by
  induction k generalizing v with
  | zero =>
    by_cases h : v = 0
    · subst h; rw [byteLen_zero]; decide
    · rw [byteLen_pos h]; exact iff_of_false (Nat.not_succ_le_zero _) (by omega)
  | succ k ih =>
    by_cases h : v = 0
    · subst h; rw [byteLen_zero]; exact iff_of_true (Nat.zero_le _) (Nat.pow_pos (by decide))
    · rw [byteLen_pos h, Nat.add_le_add_iff_right, ih, Nat.pow_succ, Nat.div_lt_iff_lt_mul (by decide)]

theorem writeVarint_length (v : Nat) : (writeVarint v).length = 1 + byteLen v := by
  rw [writeVarint, List.length_cons, List.length_reverse, Nat.add_comm]; rfl

theorem le_foldl_be (l : List Nat) (acc : Nat) :
    acc ≤ l.foldl (fun a b => a * 256 + b) acc := by
  induction l generalizing acc with
  | nil => exact Nat.le_refl _
  | cons b l ih =>
    exact Nat.le_trans (Nat.le_trans (Nat.le_mul_of_pos_right acc (by decide)) (Nat.le_add_right _ b)) (ih _)

theorem readBE_append (l r : List Nat) (acc : Nat)
    (h : l.foldl (fun a b => a * 256 + b) acc < 2 ^ 64) :
    readBE acc l.length (l ++ r) = some (l.foldl (fun a b => a * 256 + b) acc, r) := by
  induction l generalizing acc with
  | nil => rfl
  | cons b l ih =>
    have h1 : acc * 256 < 2 ^ 64 :=
      Nat.lt_of_le_of_lt (Nat.le_trans (Nat.le_add_right _ b) (le_foldl_be l _)) h
    rw [List.length_cons, List.cons_append, readBE, Nat.mod_eq_of_lt h1]
    exact ih _ h

theorem foldl_be_reverse_digits (v : Nat) :
    (digits v).reverse.foldl (fun a b => a * 256 + b) 0 = v := by
  rw [List.foldl_reverse]
  refine Eq.trans ?_ (leVal_digits v)
  exact congrArg (fun f => List.foldr f 0 (digits v)) (funext fun b => funext fun a => by
    rw [Nat.mul_comm, Nat.add_comm])

theorem readVarint_writeVarint (v : Nat) (r : List Nat) (h : v < 2 ^ 64) :
    readVarint (writeVarint v ++ r) = some (v, r) := by
  have h1 := readBE_append (digits v).reverse r 0 (by rw [foldl_be_reverse_digits]; exact h)
  rwa [foldl_be_reverse_digits, List.length_reverse] at h1

theorem countOverflows_writeVarint (v : Nat) (r : List Nat) (h : v < 2 ^ 64) :
    countOverflows (writeVarint v ++ r) = false := by
  have := (byteLen_le_iff v 8).mpr h
  simp [countOverflows, writeVarint]; omega

theorem readBE_length {acc k : Nat} {bs : List Nat} {v : Nat} {r : List Nat}
    (h : readBE acc k bs = some (v, r)) : r.length + k = bs.length := by
  induction k generalizing acc bs with
  | zero => rw [readBE] at h; cases h; rfl
  | succ k ih =>
    cases bs with
    | nil => cases h
    | cons b bs => exact congrArg (· + 1) (ih h)

theorem readVarint_length {bs : List Nat} {v : Nat} {r : List Nat}
    (h : readVarint bs = some (v, r)) : r.length < bs.length := by
  cases bs with
  | nil => cases h
  | cons n bs => exact Nat.lt_succ_of_le (Nat.le.intro (readBE_length h))

theorem leBytes_length (k v : Nat) : (leBytes k v).length = k := by
  induction k generalizing v with
  | zero => rfl
  | succ k ih => exact congrArg (· + 1) (ih _)

theorem leVal_leBytes (k v : Nat) : leVal (leBytes k v) = v % 256 ^ k := by
  induction k generalizing v with
  | zero => exact (Nat.mod_one v).symm
  | succ k ih =>
    rw [leBytes, leVal_cons, ih, Nat.pow_succ, Nat.mul_comm (256 ^ k) 256, Nat.mod_mul]

theorem le64_length (v : Nat) : (le64 v).length = 8 := leBytes_length 8 v

theorem leVal_le64 {v : Nat} (h : v < 2 ^ 64) : leVal (le64 v) = v := by
  rw [le64, leVal_leBytes]; exact Nat.mod_eq_of_lt h

theorem readFixedU64_le64 {v : Nat} (h : v < 2 ^ 64) (r : List Nat) :
    readFixedU64 (le64 v ++ r) = some (v, r) := by
  have hl := le64_length v
  rw [readFixedU64, if_neg (by rw [List.length_append, hl]; exact Nat.not_lt.mpr (Nat.le_add_right 8 _)),
    List.take_left' hl, List.drop_left' hl, leVal_le64 h]

end Ragc.Varint
