import RagcModel.Model.Details
import RagcModel.Lemmas.CollVarint
import RagcModel.Lemmas.Zigzag
/-! Lemmas for the 5-stream descriptor codec and its predictor table (C03). -/
namespace Ragc.Details
open Ragc.CollVarint Ragc.Zigzag Ragc.Names

/-- Values the predictor table can hold on the domain of the theorem: `-1` (never seen) or an id
    whose successor does not overflow `i32`. -/
def PrevOk (prev : Int) : Prop := -1 ≤ prev ∧ prev + 1 < 2147483648

theorem toI32_of_lt {x : Nat} (h : x < 2147483648) : toI32 x = x := if_pos h

theorem succI32_natCast {q : Nat} (h : q + 1 < 2147483648) : succI32 q = (q + 1 : Nat) :=
  if_neg (by omega)

theorem i32ToU64_natCast (n : Nat) : i32ToU64 n = n := by
  unfold i32ToU64; rw [if_pos (Int.natCast_nonneg n)]; rfl

theorem i32ToU32_natCast (n : Nat) : i32ToU32 n = n := by
  unfold i32ToU32; rw [if_pos (Int.natCast_nonneg n)]; rfl

theorem U32_lt_U64 : U32 < U64 := by decide

/-- What both codings of a `u32` field rest on: with a prediction of at most `2^31` the zigzag code
    of a `u32` is a `u32` again (so the `as u32` of the callers loses nothing) and decodes to it. -/
theorem zigzag_u32 (x p : Nat) (hx : x < U32) (hp : 2 * p ≤ U32) :
    zigzagEncode x p < U32 ∧ (0 < x → x + 1 < U32 → zigzagEncode x p + 1 < U32) ∧
      zigzagDecode (zigzagEncode x p) p % U32 = x := by
  refine ⟨(zigzagEncode_lt x p U32 hx hp U32_lt_U64).1, (zigzagEncode_lt x p U32 hx hp U32_lt_U64).2, ?_⟩
  rw [zigzagDecode_encode x p (Nat.lt_trans ((Nat.mul_lt_mul_left Nat.zero_lt_two).mpr hx) (by decide))
      (Nat.lt_of_le_of_lt hp U32_lt_U64),
    Nat.mod_eq_of_lt hx]

theorem decInGroup_encInGroup (prev : Int) (id : Nat) (hp : PrevOk prev) (hid : id + 1 < 2147483648) :
    decInGroup prev (encInGroup prev id) = id := by
  unfold decInGroup encInGroup
  by_cases h1 : prev = -1
  · rw [if_pos h1, if_pos h1]
  rw [if_neg h1, if_neg h1]
  obtain ⟨q, rfl⟩ := Int.eq_ofNat_of_zero_le (Int.add_one_le_of_lt (Int.lt_iff_le_and_ne.mpr ⟨hp.1, Ne.symm h1⟩))
  have hq : q + 1 < 2147483648 := Int.ofNat_lt.mp hp.2
  rw [succI32_natCast hq, i32ToU64_natCast, i32ToU32_natCast, toI32_of_lt (Nat.lt_of_succ_lt hid)]
  by_cases h2 : id = 0
  · rw [if_pos h2, if_pos rfl]; exact h2.symm
  rw [if_neg h2]
  by_cases h3 : (id : Int) = ((q + 1 : Nat) : Int)
  · rw [if_pos h3, if_neg Nat.one_ne_zero, if_pos rfl]; exact (Int.ofNat_inj.mp h3).symm
  rw [if_neg h3]
  -- the escape: code `zigzag + 1 ≥ 2`, undone by the decoder's `- 1`
  have hid32 : id + 1 < U32 := Nat.lt_trans hid (by decide)
  have hq32 : 2 * (q + 1) ≤ U32 := Nat.mul_le_mul_left 2 (Nat.le_of_lt hq)
  have ⟨hlt, hlt1, hdec⟩ := zigzag_u32 id (q + 1) (Nat.lt_of_succ_lt hid32) hq32
  have hpos := zigzagEncode_pos id (q + 1) (Nat.lt_of_le_of_lt hq32 U32_lt_U64)
    (fun e => h3 (congrArg _ e))
  rw [Nat.mod_eq_of_lt hlt, Nat.mod_eq_of_lt (hlt1 (Nat.pos_of_ne_zero h2) hid32),
    if_neg (Nat.succ_ne_zero _), if_neg (fun e => Nat.ne_of_gt hpos (Nat.succ.inj e)),
    Nat.add_sub_cancel, hdec]

theorem ite_lt {c : Prop} [Decidable c] {a b n : Nat} (ha : a < n) (hb : b < n) :
    (if c then a else b) < n := by
  split <;> assumption

theorem encInGroup_lt (prev : Int) (id : Nat) (hid : id < 4294967296) : encInGroup prev id < 4294967296 :=
  ite_lt hid (ite_lt (by decide) (ite_lt (by decide) (Nat.mod_lt _ (by decide))))

theorem rawLen_roundtrip (l pred : Nat) (hl : l < 4294967296) (hp : pred ≤ 2147483648) :
    zigzagDecode (zigzagEncode l pred % U32) pred % U32 = l := by
  have ⟨h1, _, h2⟩ := zigzag_u32 l pred hl (Nat.mul_le_mul_left 2 hp)
  rw [Nat.mod_eq_of_lt h1, h2]

/-- The invariant of the predictor table along a batch: every entry is `PrevOk` (the empty
    table answers `-1` everywhere). -/
def TableOk (t : Table) : Prop := ∀ g, PrevOk (t.get g)

theorem tableOk_nil : TableOk [] := fun _ => ⟨Int.le_refl _, (by decide : (-1 : Int) + 1 < 2147483648)⟩

theorem tableOk_update (t : Table) (g : Nat) (id : Nat) (ht : TableOk t) (hid : id + 1 < 2147483648) :
    TableOk (update t g (t.get g) id) := by
  unfold update
  split
  · intro g'
    rw [Table.set, Table.get]
    split
    · rw [toI32_of_lt (Nat.lt_of_succ_lt hid)]
      exact ⟨Int.le_trans (by decide) (Int.natCast_nonneg id), Int.ofNat_lt.mpr hid⟩
    · exact ht g'
  · exact ht

/-- A descriptor inside the domain: `u32` fields, in-group id below `i32::MAX`. -/
def SegOk (s : Seg) : Prop := s.group < 4294967296 ∧ s.inGroup + 1 < 2147483648 ∧ s.rawLen < 4294967296

theorem decSegs_encSegs (pred : Nat) (hp : pred ≤ 2147483648) (segs : List Seg) : ∀ (t : Table),
    TableOk t → (∀ s ∈ segs, SegOk s) → decSegs pred t (encSegs pred t segs) = segs := by
  induction segs with
  | nil => intro t _ _; rfl
  | cons s ss ih =>
    intro t ht h
    have ⟨hs, hss⟩ := List.forall_mem_cons.mp h
    simp only [encSegs, decSegs]
    rw [decInGroup_encInGroup (t.get s.group) s.inGroup (ht s.group) hs.2.1,
      rawLen_roundtrip s.rawLen pred hs.2.2 hp,
      ih _ (tableOk_update t s.group s.inGroup ht hs.2.1) hss]
    congr 1
    cases s with
    | mk g i r l => cases r <;> rfl

/-- Encoder and decoder evolve the predictor table identically. -/
theorem decFinalTable_encSegs (pred : Nat) (segs : List Seg) : ∀ (t : Table),
    TableOk t → (∀ s ∈ segs, SegOk s) →
    decFinalTable t (encSegs pred t segs) = encFinalTable t segs := by
  induction segs with
  | nil => intro t _ _; rfl
  | cons s ss ih =>
    intro t ht h
    have ⟨hs, hss⟩ := List.forall_mem_cons.mp h
    simp only [encSegs, decFinalTable, encFinalTable]
    rw [decInGroup_encInGroup (t.get s.group) s.inGroup (ht s.group) hs.2.1,
      ih _ (tableOk_update t s.group s.inGroup ht hs.2.1) hss]

theorem encSegs_length (pred : Nat) (segs : List Seg) : ∀ t, (encSegs pred t segs).length = segs.length := by
  induction segs with
  | nil => intro t; rfl
  | cons s ss ih => intro t; exact congrArg (· + 1) (ih _)

theorem encSegs_bounds (pred : Nat) (segs : List Seg) : ∀ (t : Table),
    (∀ s ∈ segs, s.group < 4294967296 ∧ s.inGroup < 4294967296) →
    ∀ e ∈ encSegs pred t segs, e.g < 4294967296 ∧ e.i < 4294967296 ∧ e.l < 4294967296 ∧ e.r < 4294967296 := by
  induction segs with
  | nil => intro t _ e he; exact absurd he List.not_mem_nil
  | cons s ss ih =>
    intro t h e he
    have ⟨hs, hss⟩ := List.forall_mem_cons.mp h
    rcases List.mem_cons.mp he with rfl | he
    · exact ⟨hs.1, encInGroup_lt _ _ hs.2, Nat.mod_lt _ (by decide), ite_lt (by decide) (by decide)⟩
    · exact ih _ hss e he

theorem decNats_encNats (xs : List Nat) : ∀ (r : List Nat), (∀ x ∈ xs, x < 4294967296) →
    decNats xs.length (encNats xs ++ r) = some (xs, r) := by
  induction xs with
  | nil => intro r _; rfl
  | cons x xs ih =>
    intro r h
    have ⟨hx, hxs⟩ := List.forall_mem_cons.mp h
    rw [List.length_cons, encNats, List.append_assoc, decNats, decode_encode x hx]
    simp only [ih r hxs]

theorem decShape_encShape (sh : List (List Nat)) : ∀ (r : List Nat),
    (∀ s ∈ sh, s.length < 4294967296 ∧ ∀ c ∈ s, c < 4294967296) →
    decShape sh.length (encShape sh ++ r) = some sh := by
  induction sh with
  | nil => intro r _; rfl
  | cons s ss ih =>
    intro r h
    have ⟨hs, hss⟩ := List.forall_mem_cons.mp h
    rw [List.length_cons, encShape, List.append_assoc, List.append_assoc, decShape,
      decode_encode s.length hs.1]
    simp only [decNats_encNats s _ hs.2, ih r hss]

theorem zip4_map (es : List Enc) :
    zip4 (es.map Enc.g) (es.map Enc.i) (es.map Enc.l) (es.map Enc.r) = es := by
  induction es with
  | nil => rfl
  | cons e es ih => exact congrArg (e :: ·) ih

theorem cut_lengths {α : Type} (s : List (List α)) : ∀ (rest : List α),
    cut (s.map List.length) (s.flatten ++ rest) = (s, rest) := by
  induction s with
  | nil => intro rest; rfl
  | cons c cs ih =>
    intro rest
    rw [List.map_cons, List.flatten_cons, List.append_assoc, cut, List.drop_left, List.take_left,
      ih rest]

theorem regroup_flatten {α : Type} (b : List (List (List α))) : ∀ (rest : List α),
    regroup (b.map (fun s => s.map List.length)) ((b.map List.flatten).flatten ++ rest) = b := by
  induction b with
  | nil => intro rest; rfl
  | cons s ss ih =>
    intro rest
    rw [List.map_cons, List.map_cons, List.flatten_cons, List.append_assoc, regroup, cut_lengths s]
    exact congrArg (s :: ·) (ih rest)

theorem sumShape_shapeOf (b : Batch) : sumShape (shapeOf b) = (flatten b).length := by
  unfold sumShape shapeOf flatten
  rw [List.length_flatten, List.map_map, List.map_map]
  congr 1
  apply List.map_congr_left
  intro s _
  simp only [Function.comp_apply, List.length_flatten]

/-- Counts fit the `u32` they are written as. -/
def ShapeOk (b : Batch) : Prop :=
  b.length < 4294967296 ∧ ∀ s ∈ b, s.length < 4294967296 ∧ ∀ c ∈ s, c.length < 4294967296

/-- One of the four field streams: a projection of the encoded descriptors, each a `u32`. -/
theorem decNats_map (es : List Enc) (f : Enc → Nat) (h : ∀ e ∈ es, f e < 4294967296) :
    decNats es.length (encNats (es.map f)) = some (es.map f, []) := by
  have := decNats_encNats (es.map f) [] (List.forall_mem_map.mpr h)
  rwa [List.length_map, List.append_nil] at this

theorem decodeDetailsL_encodeDetails (segSize k : Nat) (b : Batch) (have_ : List Nat)
    (hpred : segSize + k ≤ 2147483648) (hshape : ShapeOk b)
    (hseg : ∀ s ∈ b, ∀ c ∈ s, ∀ g ∈ c, SegOk g) (hfit : fits have_ b = true) :
    decodeDetailsL segSize k have_ (encodeDetails segSize k b) = .ok b := by
  have hp : predLen segSize k ≤ 2147483648 := Nat.le_trans (Nat.mod_le _ _) hpred
  have hflat : ∀ g ∈ flatten b, SegOk g := List.forall_mem_flatten.mpr <|
    List.forall_mem_map.mpr fun s hs => List.forall_mem_flatten.mpr (hseg s hs)
  have hb := encSegs_bounds (predLen segSize k) (flatten b) []
    fun s hs => ⟨(hflat s hs).1, Nat.lt_trans (Nat.lt_of_succ_lt (hflat s hs).2.1) (by decide)⟩
  have h0 := decShape_encShape (shapeOf b) [] <| List.forall_mem_map.mpr fun s hs =>
    ⟨by rw [List.length_map]; exact (hshape.2 s hs).1, List.forall_mem_map.mpr (hshape.2 s hs).2⟩
  rw [List.append_nil, shapeOf, List.length_map] at h0
  have hre := regroup_flatten b []
  rw [List.append_nil] at hre
  -- stream 0 gives the shape, streams 1–4 the fields of the encoded descriptors, which decode to
  -- the flat descriptor list; regrouping by the shape restores the batch
  show decodeDetails _ _ _ _ _ _ _ _ = _
  rw [decodeDetails, decodeDetailsRaw, decode_encode b.length hshape.1]
  simp only [shapeOf, h0]
  rw [← shapeOf, sumShape_shapeOf, ← encSegs_length (predLen segSize k) (flatten b) [],
    decNats_map _ Enc.g fun e he => (hb e he).1, decNats_map _ Enc.i fun e he => (hb e he).2.1,
    decNats_map _ Enc.l fun e he => (hb e he).2.2.1, decNats_map _ Enc.r fun e he => (hb e he).2.2.2]
  simp only [zip4_map, decSegs_encSegs _ hp _ [] tableOk_nil hflat]
  rw [show regroup (shapeOf b) (flatten b) = b from hre]
  exact if_pos hfit

end Ragc.Details
