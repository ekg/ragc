import RagcModel.Lemmas.Kmer
import RagcModel.Lemmas.Splitters
/-!
Vocabulary of strand symmetry (C11): reverse complement of contigs, the from-scratch list
`windowsSpec` of window values of a contig (C20's `specWindows` at C20's `canon`), its invariance
under reverse complement, and how often a value occurs in it.
-/
namespace Ragc.Splitters
open Ragc.Kmer

/-- Complement of a contig symbol: bases are complemented, every other code (N, IUPAC, 30) is
    kept — the harness' `rc_contig`. -/
def complSym (b : UInt64) : UInt64 := if b ≤ 3 then 3 - b else b

/-- Reverse complement of a contig. -/
def rcContig (c : List UInt64) : List UInt64 := (c.map complSym).reverse

/-- Reverse-complement the contigs selected by `flips` (missing flags mean "unchanged"). -/
def rcSome : List Bool → List (List UInt64) → List (List UInt64)
  | _, [] => []
  | [], c :: cs => c :: rcSome [] cs
  | f :: fs, c :: cs => (if f then rcContig c else c) :: rcSome fs cs

/-- All symbols are bases. -/
def BasesOnly (w : List UInt64) : Prop := ∀ b ∈ w, b ≤ 3

instance (w : List UInt64) : Decidable (BasesOnly w) := by unfold BasesOnly; infer_instance

/-- Reverse complement of a window of bases. -/
def rcWin (w : List UInt64) : List UInt64 := w.reverse.map (3 - ·)

/-- The window starting at the head of `t`, if it exists and consists of bases only. -/
def headWin (canonW : List UInt64 → UInt64) (k : Nat) (t : List UInt64) : List UInt64 :=
  if k ≤ t.length ∧ BasesOnly (t.take k) then [canonW (t.take k)] else []

/-- The window ending at the last symbol of `l`, if it exists and consists of bases only. -/
def lastWin (canonW : List UInt64 → UInt64) (k : Nat) (l : List UInt64) : List UInt64 :=
  if k ≤ l.length ∧ BasesOnly (l.drop (l.length - k)) then [canonW (l.drop (l.length - k))] else []

/-- From-scratch list of the values `canonW w` of all k-windows `w` of bases, by start position. -/
def windowsSpec (canonW : List UInt64 → UInt64) (k : Nat) : List UInt64 → List UInt64
  | [] => []
  | b :: bs => headWin canonW k (b :: bs) ++ windowsSpec canonW k bs

theorem valid_iff_basesOnly (w : List UInt64) : Valid w ↔ BasesOnly w := Iff.rfl

theorem rcWindow_eq_rcWin (w : List UInt64) : rcWindow w = rcWin w := rfl

theorem specWindows_eq_windowsSpec (k : Nat) (l : List UInt64) :
    specWindows k l = windowsSpec canon k l := by
  induction l with
  | nil => rfl
  | cons b bs ih =>
    rw [specWindows, windowsSpec, headWin, ih]
    show _ = (if k ≤ (b :: bs).length ∧ Valid ((b :: bs).take k) then _ else _) ++ _
    split <;> rfl

/-- C20's `enumerate_spec`, in the `windowsSpec` vocabulary. -/
theorem enumerateKmers_eq_windowsSpec (k : Nat) (h1 : 1 ≤ k) (h32 : k ≤ 32) (c : List UInt64) :
    enumerateKmers c k = windowsSpec canon k c := by
  rw [enumerateKmers_spec k h1 h32, specWindows_eq_windowsSpec]

theorem headWin_short {canonW : List UInt64 → UInt64} {k : Nat} {t : List UInt64}
    (h : t.length < k) : headWin canonW k t = [] :=
  if_neg fun hh => Nat.not_le_of_lt h hh.1

theorem lastWin_short {canonW : List UInt64 → UInt64} {k : Nat} {t : List UInt64}
    (h : t.length < k) : lastWin canonW k t = [] :=
  if_neg fun hh => Nat.not_le_of_lt h hh.1

theorem windowsSpec_short (canonW : List UInt64 → UInt64) {k : Nat} {l : List UInt64}
    (h : l.length < k) : windowsSpec canonW k l = [] := by
  induction l with
  | nil => rfl
  | cons b bs ih => rw [windowsSpec, headWin_short h, ih (Nat.lt_of_succ_lt h)]; rfl

theorem headWin_append {canonW : List UInt64 → UInt64} {k : Nat} {t : List UInt64}
    (h : k ≤ t.length) (u : List UInt64) : headWin canonW k (t ++ u) = headWin canonW k t := by
  unfold headWin
  rw [List.take_append_of_le_length h, List.length_append]
  simp only [h, Nat.le_add_right_of_le, true_and]

theorem lastWin_cons {canonW : List UInt64 → UInt64} {k : Nat} {t : List UInt64}
    (h : k ≤ t.length) (x : UInt64) : lastWin canonW k (x :: t) = lastWin canonW k t := by
  unfold lastWin
  rw [List.length_cons, Nat.succ_sub h, List.drop_succ_cons]
  simp only [h, Nat.le_succ_of_le, true_and]

/-- A list no longer than `k` has the same first and last window (itself, or none). -/
theorem headWin_eq_lastWin {canonW : List UInt64 → UInt64} {k : Nat} {t : List UInt64}
    (h : t.length ≤ k) : headWin canonW k t = lastWin canonW k t := by
  rcases Nat.eq_or_lt_of_le h with h | h
  · unfold headWin lastWin
    rw [h, Nat.sub_self, List.drop_zero, ← h, List.take_length]
  · rw [headWin_short h, lastWin_short h]

theorem windowsSpec_snoc (canonW : List UInt64 → UInt64) (k : Nat) (hk : 1 ≤ k) (b : UInt64)
    (l : List UInt64) :
    windowsSpec canonW k (l ++ [b]) = windowsSpec canonW k l ++ lastWin canonW k (l ++ [b]) := by
  induction l with
  | nil =>
    show headWin canonW k [b] ++ [] = [] ++ lastWin canonW k [b]
    rw [List.append_nil, List.nil_append, headWin_eq_lastWin hk]
  | cons x l ih =>
    show headWin canonW k (x :: l ++ [b]) ++ windowsSpec canonW k (l ++ [b])
        = (headWin canonW k (x :: l) ++ windowsSpec canonW k l) ++ lastWin canonW k (x :: (l ++ [b]))
    have hlen : (l ++ [b]).length = l.length + 1 := List.length_append
    rw [ih]
    by_cases h : k ≤ l.length + 1
    · -- the head window does not reach `b`; the last window does not reach `x`
      rw [headWin_append (t := x :: l) h, lastWin_cons (t := l ++ [b]) (hlen ▸ h),
        List.append_assoc]
    · -- no window but, at most, the whole list
      have h' : l.length + 1 < k := Nat.lt_of_not_le h
      rw [headWin_short (t := x :: l) h', windowsSpec_short canonW (Nat.lt_of_succ_lt h'),
        lastWin_short (t := l ++ [b]) (hlen ▸ h'),
        headWin_eq_lastWin (t := x :: l ++ [b]) (Nat.le_trans (Nat.le_of_eq (congrArg (· + 1) hlen)) h')]
      exact List.append_nil _

theorem complSym_le3_iff (b : UInt64) : complSym b ≤ 3 ↔ b ≤ 3 := by
  unfold complSym
  split
  · next h =>
    refine ⟨fun _ => h, fun _ => UInt64.le_iff_toNat_le.mpr ?_⟩
    rw [UInt64.toNat_sub_of_le _ _ h]
    exact Nat.sub_le _ _
  · rfl

theorem basesOnly_rcContig (w : List UInt64) : BasesOnly (rcContig w) ↔ BasesOnly w := by
  simp only [BasesOnly, rcContig, List.mem_reverse, List.forall_mem_map, complSym_le3_iff]

theorem rcContig_of_basesOnly {w : List UInt64} (h : BasesOnly w) : rcContig w = rcWin w := by
  rw [rcContig, rcWin, List.map_reverse]
  exact congrArg _ (List.map_congr_left fun b hb => if_pos (h b hb))

theorem rcContig_length (c : List UInt64) : (rcContig c).length = c.length := by
  rw [rcContig, List.length_reverse, List.length_map]

theorem rcContig_cons (b : UInt64) (bs : List UInt64) :
    rcContig (b :: bs) = rcContig bs ++ [complSym b] :=
  List.reverse_cons

/-- The last window of the reverse complement is the first window of the contig. -/
theorem lastWin_rcContig (canonW : List UInt64 → UInt64) (k : Nat)
    (h_rc : ∀ w, BasesOnly w → w.length = k → canonW (rcWin w) = canonW w) (t : List UInt64) :
    lastWin canonW k (rcContig t) = headWin canonW k t := by
  unfold lastWin headWin
  rw [rcContig_length]
  by_cases hk : k ≤ t.length
  · have d : (rcContig t).drop (t.length - k) = rcContig (t.take k) := by
      rw [rcContig, List.drop_reverse, List.length_map, Nat.sub_sub_self hk, ← List.map_take]; rfl
    rw [d]
    by_cases hb : BasesOnly (t.take k)
    · rw [if_pos ⟨hk, (basesOnly_rcContig _).mpr hb⟩, if_pos ⟨hk, hb⟩, rcContig_of_basesOnly hb,
        h_rc _ hb (List.length_take_of_le hk)]
    · rw [if_neg fun hh => hb ((basesOnly_rcContig _).mp hh.2), if_neg fun hh => hb hh.2]
  · rw [if_neg fun hh => hk hh.1, if_neg fun hh => hk hh.1]

/-- The multiset of window values of a contig equals that of its reverse complement. -/
theorem windowsSpec_rc (canonW : List UInt64 → UInt64) (k : Nat) (hk : 1 ≤ k)
    (h_rc : ∀ w, BasesOnly w → w.length = k → canonW (rcWin w) = canonW w) (c : List UInt64) :
    (windowsSpec canonW k (rcContig c)).Perm (windowsSpec canonW k c) := by
  induction c with
  | nil => exact .refl _
  | cons b bs ih =>
    rw [rcContig_cons, windowsSpec_snoc canonW k hk, ← rcContig_cons,
      lastWin_rcContig canonW k h_rc]
    exact (List.Perm.append_right _ ih).trans List.perm_append_comm

theorem allKmers_rcSome (k : Nat)
    (h_enum_rc : ∀ c, (enumerateKmers (rcContig c) k).Perm (enumerateKmers c k))
    (cs : List (List UInt64)) (flips : List Bool) :
    (allKmers (rcSome flips cs) k).Perm (allKmers cs k) := by
  induction cs generalizing flips with
  | nil => cases flips <;> exact .refl _
  | cons c cs ih =>
    cases flips with
    | nil => exact List.Perm.append_left _ (ih [])
    | cons f fs =>
      refine List.Perm.append ?_ (ih fs)
      cases f
      · exact .refl _
      · exact h_enum_rc c

theorem windowsSpec_head (canonW : List UInt64 → UInt64) (k : Nat) (h1 : 1 ≤ k)
    (t : List UInt64) (hk : k ≤ t.length) (hb : BasesOnly (t.take k)) :
    windowsSpec canonW k t = canonW (t.take k) :: windowsSpec canonW k (t.drop 1) := by
  cases t with
  | nil => exact absurd (Nat.le_trans h1 hk) (Nat.not_succ_le_zero 0)
  | cons x xs => rw [windowsSpec, headWin, if_pos ⟨hk, hb⟩]; rfl

theorem windowsSpec_suffix (canonW : List UInt64 → UInt64) (k : Nat) {t l : List UInt64}
    (h : t <:+ l) : windowsSpec canonW k t <:+ windowsSpec canonW k l := by
  induction l with
  | nil => rw [List.suffix_nil.mp h]; exact List.suffix_refl _
  | cons b bs ih =>
    rcases List.suffix_cons_iff.mp h with rfl | h
    · exact List.suffix_refl _
    · exact (ih h).trans (List.suffix_append _ _)

theorem count_windowsSpec_drop_le (canonW : List UInt64 → UInt64) (k : Nat) (l : List UInt64)
    {i j : Nat} (hij : i ≤ j) (v : UInt64) :
    (windowsSpec canonW k (l.drop j)).count v ≤ (windowsSpec canonW k (l.drop i)).count v :=
  (windowsSpec_suffix canonW k (List.drop_suffix_drop_left l hij)).count_le v

theorem count_windowsSpec_drop (canonW : List UInt64 → UInt64) (k : Nat) (h1 : 1 ≤ k)
    (l : List UInt64) (i : Nat) (v : UInt64) (hi : i + k ≤ l.length)
    (hb : BasesOnly ((l.drop i).take k)) (hv : canonW ((l.drop i).take k) = v) :
    (windowsSpec canonW k (l.drop i)).count v
      = (windowsSpec canonW k (l.drop (i + 1))).count v + 1 := by
  rw [windowsSpec_head canonW k h1 (l.drop i) (List.length_drop ▸ Nat.le_sub_of_add_le' hi) hb, hv,
    List.count_cons_self, List.drop_drop]

theorem count_one_window (canonW : List UInt64 → UInt64) (k : Nat) (h1 : 1 ≤ k) (l : List UInt64)
    (i : Nat) (v : UInt64) (hi : i + k ≤ l.length) (hb : BasesOnly ((l.drop i).take k))
    (hv : canonW ((l.drop i).take k) = v) : 1 ≤ (windowsSpec canonW k l).count v := by
  have a := count_windowsSpec_drop_le canonW k l (Nat.zero_le i) v
  rw [count_windowsSpec_drop canonW k h1 l i v hi hb hv] at a
  exact Nat.le_trans (Nat.le_add_left _ _) a

theorem count_two_windows (canonW : List UInt64 → UInt64) (k : Nat) (h1 : 1 ≤ k)
    (l : List UInt64) (i j : Nat) (v : UInt64) (hij : i < j) (hj : j + k ≤ l.length)
    (hbi : BasesOnly ((l.drop i).take k)) (hvi : canonW ((l.drop i).take k) = v)
    (hbj : BasesOnly ((l.drop j).take k)) (hvj : canonW ((l.drop j).take k) = v) :
    2 ≤ (windowsSpec canonW k l).count v := by
  have a := count_windowsSpec_drop_le canonW k l (Nat.zero_le i) v
  have b := count_windowsSpec_drop_le canonW k l (Nat.succ_le_of_lt hij) v
  rw [count_windowsSpec_drop canonW k h1 l i v
    (Nat.le_trans (Nat.add_le_add_right (Nat.le_of_lt hij) k) hj) hbi hvi] at a
  rw [count_windowsSpec_drop canonW k h1 l j v hj hbj hvj] at b
  exact Nat.le_trans (Nat.succ_le_succ (Nat.le_trans (Nat.le_add_left _ _) b)) a

end Ragc.Splitters
