import RagcModel.Model.Agc3
import RagcModel.Model.StreamNames
import RagcModel.Lemmas.StreamNames
/-!
Helper lemmas for C02: the decoder's literal base-64 naming (`Agc3.b64Encode`, `parseXName`)
against the writer's (`StreamNames.intToBase64`), and the array twin of `Container.readPartData`.
-/
namespace Ragc.Agc3
open Ragc.StreamNames

/-- the decoder's literal digit table is the regenerated one -/
theorem b64Digit_eq (i : Nat) : b64Digit i = digitAt i := rfl

theorem b64Encode_unfold (n : Nat) :
    b64Encode n = b64Digit (n % 64) :: if n / 64 = 0 then [] else b64Encode (n / 64) := by
  rw [b64Encode]
  split <;> rfl

theorem b64Encode_eq (n : Nat) : b64Encode n = intToBase64 n := by
  induction n using Nat.strongRecOn with
  | _ n ih =>
    rw [b64Encode_unfold, intToBase64_eq, b64Digit_eq]
    split
    · rfl
    · rename_i h
      rw [ih _ (div64_lt h)]

/-- Every digit is found at its own index, because no digit occurs twice. -/
theorem b64_idx (i : Nat) (hi : i < 64) : b64.idxOf? (b64Digit i) = some i := by
  rw [b64Digit_eq, digitAt_eq hi]
  exact List.idxOf?_eq_some_iff.mpr
    ⟨_, rfl, fun j hj h => absurd ((List.getElem_inj digits_nodup).mp h) (Nat.ne_of_lt hj)⟩

theorem b64Value_cons (c : Nat) (r : List Nat) (d v : Nat) (hd : b64.idxOf? c = some d)
    (hv : b64Value r = some v) : b64Value (c :: r) = some (d + 64 * v) := by
  simp only [b64Value, hd, hv]

theorem b64Value_encode (n : Nat) : b64Value (b64Encode n) = some n := by
  induction n using Nat.strongRecOn with
  | _ n ih =>
    have hn : n % 64 + 64 * (n / 64) = n := by rw [Nat.add_comm]; exact Nat.div_add_mod n 64
    have hd := b64_idx _ (Nat.mod_lt n (by decide))
    rw [b64Encode_unfold]
    split
    · rename_i h
      rw [b64Value_cons _ _ _ 0 hd rfl, ← h, hn]
    · rename_i h
      rw [b64Value_cons _ _ _ _ hd (ih _ (div64_lt h)), hn]

theorem parseXName_xName (g : Nat) (kd : Kind) : parseXName (xName g kd) = some (g, kd) := by
  unfold parseXName xName
  have hemp : (b64Encode g).isEmpty = false := by
    rw [b64Encode_unfold]; rfl
  simp only [List.dropLast_concat, hemp, Bool.false_eq_true, if_false, List.getLast?_concat,
    b64Value_encode]
  cases kd <;> rfl

open Ragc.Container Ragc.Varint

/-- a part reads back as written unless it is empty with a non-zero metadata (an empty part loses it) -/
theorem readBack_eq {b : Blob} (h : b.1 = [] → b.2 = 0) : Spec.readBack b = b := by
  unfold Spec.readBack
  split
  · rename_i he
    have he := List.isEmpty_iff.mp he
    exact (Prod.ext he (h he)).symm
  · rfl

theorem readBE_take (m : Nat) : ∀ (n acc : Nat) (r : List Nat),
    readBE acc n (r.take (n + m)) = (readBE acc n r).map (fun x => (x.1, x.2.take m)) := by
  intro n
  induction n with
  | zero => intro acc r; simp [readBE]
  | succ n ih =>
    intro acc r
    cases r with
    | nil => simp [readBE]
    | cons b r =>
      rw [Nat.add_right_comm, List.take_succ_cons]
      exact ih _ r

/-- Reading a part from the array copy of the file gives exactly what `Container.readPartData`
(the proved reader of C13, with the repaired varint reader) gives, for every part the directory
check `partsInFile` admits. -/
theorem readPartA_eq (file : List Nat) (p : Part) (hfit : p.off + p.size ≤ file.length)
    (hseek : p.off ≤ seekMax) (b : Blob) :
    readPartA file.toArray p = .ok b ↔ readPartData readVarintFixed seekMax file p = .ok b := by
  unfold readPartA readPartData
  by_cases hz : p.size = 0
  · simp only [hz, if_true]
    constructor <;> intro h <;> cases h <;> rfl
  · have hsk : ¬ seekMax < p.off := Nat.not_lt.mpr hseek
    have hlen : ¬ file.length < p.size := Nat.not_lt.mpr (Nat.le_trans (Nat.le_add_left _ _) hfit)
    simp only [hz, hsk, hlen, if_false, List.getElem?_toArray, ← List.head?_drop, List.extract_toArray,
      List.extract_eq_take_drop, readVarintFixed]
    cases file.drop p.off with
    | nil => simp only [List.head?_nil, readVarint, Outcome.bind, reduceCtorEq]
    | cons n r =>
      have hw : p.off + 1 + n + p.size - p.off = (n + p.size) + 1 := by
        rw [Nat.add_assoc, Nat.add_assoc, Nat.add_sub_cancel_left, Nat.add_comm 1]
      simp only [List.head?_cons, hw, List.take_succ_cons, readVarint, readBE_take]
      cases readBE 0 n r with
      | none => simp only [Option.map_none, Outcome.bind, reduceCtorEq]
      | some x =>
        simp only [Option.map_some, Outcome.bind, List.length_take, List.take_take, Nat.min_self]
        by_cases hr : x.2.length < p.size
        · simp only [hr, Nat.min_eq_right (Nat.le_of_lt hr), if_true, reduceCtorEq]
        · simp only [hr, Nat.min_eq_left (Nat.le_of_not_lt hr), Nat.lt_irrefl, if_false]
          constructor <;> intro h <;> cases h <;> rfl

end Ragc.Agc3
