import RagcModel.Lemmas.LzDiffStep
/-!
C09, bytes and tokens: `read_int` inverts `append_int` (a digit string is read back through the
number it denotes, `digitsVal`), `lexTok` returns each well-formed token from its byte form, and the
byte-level decoder run on a serialisation is the token-level decoder (`decodeGo_serialize`).
-/
namespace Ragc.Model.LzDiff
open Ragc.Gen

theorem natDigits_lt (n : Nat) (h : n < 10) : natDigits n = [48 + n] := by
  rw [natDigits, if_pos h]

theorem natDigits_ge (n : Nat) (h : ¬ n < 10) : natDigits n = natDigits (n / 10) ++ [48 + n % 10] := by
  rw [natDigits, if_neg h]

theorem isDigit_iff (b : Nat) : isDigit b = true ↔ 48 ≤ b ∧ b ≤ 57 := by
  simp [isDigit]

theorem digit_range {d : Nat} (h : d < 10) : 48 ≤ 48 + d ∧ 48 + d ≤ 57 :=
  ⟨Nat.le_add_right 48 d, Nat.add_le_add_left (Nat.le_of_lt_succ h) 48⟩

theorem natDigits_all (n : Nat) : ∀ b ∈ natDigits n, 48 ≤ b ∧ b ≤ 57 := by
  fun_induction natDigits n with
  | case1 n h =>
    intro b hb
    cases List.mem_singleton.mp hb
    exact digit_range h
  | case2 n h ih =>
    intro b hb
    rcases List.mem_append.mp hb with hb | hb
    · exact ih b hb
    · cases List.mem_singleton.mp hb
      exact digit_range (Nat.mod_lt n (by decide))

theorem natDigits_head (n : Nat) : ∃ b tl, natDigits n = b :: tl ∧ 48 ≤ b ∧ b ≤ 57 := by
  fun_induction natDigits n with
  | case1 n h => exact ⟨48 + n, [], rfl, digit_range h⟩
  | case2 n h ih =>
    obtain ⟨b, tl, e, hb⟩ := ih
    exact ⟨b, tl ++ [48 + n % 10], by rw [e]; rfl, hb⟩

/-- the number a digit string denotes, continuing from `acc`: what `readDigits` accumulates. -/
def digitsVal (acc : Nat) (ds : List Nat) : Nat := ds.foldl (fun a b => a * 10 + (b - 48)) acc

theorem readDigits_append {ds rest : List Nat} {acc : Nat} (h : ∀ b ∈ ds, 48 ≤ b ∧ b ≤ 57) :
    readDigits (ds ++ rest) acc = readDigits rest (digitsVal acc ds) := by
  induction ds generalizing acc with
  | nil => rfl
  | cons d ds ih =>
    have hd : isDigit d = true := (isDigit_iff d).mpr (h d List.mem_cons_self)
    rw [List.cons_append, readDigits, if_pos hd, ih (fun b hb => h b (List.mem_cons_of_mem d hb))]
    rfl

theorem digitsVal_natDigits (n : Nat) : digitsVal 0 (natDigits n) = n := by
  fun_induction natDigits n with
  | case1 n h => show 0 * 10 + (48 + n - 48) = n; rw [Nat.zero_mul, Nat.zero_add, Nat.add_sub_cancel_left]
  | case2 n h ih =>
    unfold digitsVal at ih ⊢
    rw [List.foldl_append, ih]
    show n / 10 * 10 + (48 + n % 10 - 48) = n
    rw [Nat.add_sub_cancel_left, Nat.div_add_mod']

theorem readDigits_natDigits (n s : Nat) (hs : isDigit s = false) (r : List Nat) :
    readDigits (natDigits n ++ s :: r) 0 = (n, s :: r) := by
  rw [readDigits_append (natDigits_all n), digitsVal_natDigits, readDigits,
    if_neg (Bool.eq_false_iff.mp hs)]

/-- `read_int` inverts `append_int` for a natural number followed by a byte `s` that is no digit. -/
theorem readInt_natDigits (n s : Nat) (hs : isDigit s = false) (r : List Nat) :
    readInt (natDigits n ++ s :: r) = some ((n : Int), s :: r) := by
  have hr := readDigits_natDigits n s hs r
  obtain ⟨b, tl, e, h1, h2⟩ := natDigits_head n
  rw [e, List.cons_append] at hr ⊢
  have hb : b ≠ 45 := by omega
  rw [readInt, if_neg hb, hr]

/-- `read_int` inverts `append_int`. -/
theorem readInt_appendInt (d : Int) (s : Nat) (hs : isDigit s = false) (r : List Nat) :
    readInt (appendInt d ++ s :: r) = some (d, s :: r) := by
  unfold appendInt
  split
  · next hneg =>
    rw [List.cons_append, readInt, if_pos rfl, readDigits_natDigits _ s hs r]
    have : -((d.natAbs : Nat) : Int) = d := by omega
    simp only [this]
  · next hpos =>
    rw [readInt_natDigits _ s hs r, Int.toNat_of_nonneg (by omega)]

/-- a serialised offset starts with `-` or a digit: neither a literal nor the N-run starter. -/
theorem appendInt_cons (d : Int) :
    ∃ b tl, appendInt d = b :: tl ∧ isLiteral b = false ∧ b ≠ lzNRunStarter := by
  obtain ⟨b, tl, e, hb⟩ : ∃ b tl, appendInt d = b :: tl ∧ 45 ≤ b ∧ b ≤ 57 := by
    unfold appendInt
    split
    · exact ⟨45, _, rfl, by decide⟩
    · obtain ⟨b, tl, e, h⟩ := natDigits_head d.toNat
      exact ⟨b, tl, e, by omega⟩
  refine ⟨b, tl, e, ?_, ?_⟩
  · simp only [isLiteral, Bool.or_eq_false_iff, Bool.and_eq_false_imp, decide_eq_true_eq,
      decide_eq_false_iff_not]
    omega
  · have : lzNRunStarter = 30 := by decide
    omega

theorem appendInt_le {d : Int} {b : Nat} (hb : b ∈ appendInt d) : b ≤ 57 := by
  unfold appendInt at hb
  split at hb
  · rcases List.mem_cons.mp hb with rfl | hb
    · decide
    · exact (natDigits_all _ b hb).2
  · exact (natDigits_all _ b hb).2

/-- Tokens that the decoder lexes back to themselves: literal codes the decoder accepts
    (`is_literal`), run lengths and match lengths that `encode_nrun`/`encode_match` can write
    (`len - MIN_NRUN_LEN`, `len - min_match_len` are natural numbers). -/
def Tok.WF (mm : Nat) : Tok → Prop
  | .lit c => c ≤ lzLiteralSpan
  | .bang => True
  | .nrun n => lzMinNRunLen ≤ n
  | .mtch _ none => True
  | .mtch _ (some l) => mm ≤ l

instance (mm : Nat) (t : Tok) : Decidable (t.WF mm) := by
  cases t with
  | lit c => exact inferInstanceAs (Decidable (c ≤ lzLiteralSpan))
  | bang => exact inferInstanceAs (Decidable True)
  | nrun n => exact inferInstanceAs (Decidable (lzMinNRunLen ≤ n))
  | mtch d len =>
    cases len with
    | none => exact inferInstanceAs (Decidable True)
    | some l => exact inferInstanceAs (Decidable (mm ≤ l))

def wellFormed (mm : Nat) (ts : List Tok) : Prop := ∀ t ∈ ts, t.WF mm

instance (mm : Nat) (ts : List Tok) : Decidable (wellFormed mm ts) := by
  unfold wellFormed; exact inferInstance

theorem lexTok_literal (mm : Nat) {b : Nat} (h : isLiteral b = true) (rest : List Nat) :
    lexTok mm (b :: rest) =
      some (if (if b = 33 then 33 else b - 65) = 33 then Tok.bang
            else Tok.lit (if b = 33 then 33 else b - 65), rest) := by
  rw [lexTok, if_pos h]

theorem lexTok_nrun (mm : Nat) {rest r : List Nat} {n : Nat} (hr : readInt rest = some ((n : Int), r)) :
    lexTok mm (lzNRunStarter :: rest) = some (Tok.nrun (n + lzMinNRunLen), r.drop 1) := by
  rw [lexTok, if_neg (by decide), if_pos rfl, hr]
  show (if (n : Int) < 0 then _ else some (Tok.nrun ((n : Int).toNat + lzMinNRunLen), r.drop 1)) = _
  rw [if_neg (Int.not_lt.mpr (Int.natCast_nonneg n)), Int.toNat_natCast]

theorem lexTok_mtch_end (mm : Nat) {b : Nat} {rest r2 : List Nat} {d : Int} (h1 : isLiteral b = false)
    (h2 : b ≠ lzNRunStarter) (hr : readInt (b :: rest) = some (d, 46 :: r2)) :
    lexTok mm (b :: rest) = some (Tok.mtch d none, r2) := by
  rw [lexTok, if_neg (Bool.eq_false_iff.mp h1), if_neg h2, hr]
  exact if_pos rfl

theorem lexTok_mtch_len (mm : Nat) {b n : Nat} {rest r2 r3 : List Nat} {d : Int} (h1 : isLiteral b = false)
    (h2 : b ≠ lzNRunStarter) (hr : readInt (b :: rest) = some (d, 44 :: r2))
    (hr2 : readInt r2 = some ((n : Int), r3)) :
    lexTok mm (b :: rest) = some (Tok.mtch d (some (n + mm)), r3.drop 1) := by
  rw [lexTok, if_neg (Bool.eq_false_iff.mp h1), if_neg h2, hr]
  show (if 44 = 46 then _ else if 44 = 44 then _ else _) = _
  rw [if_neg (by decide), if_pos rfl, hr2]
  show (if (n : Int) < 0 then _ else some (Tok.mtch d (some ((n : Int).toNat + mm)), r3.drop 1)) = _
  rw [if_neg (Int.not_lt.mpr (Int.natCast_nonneg n)), Int.toNat_natCast]

theorem lexTok_serTok (mm : Nat) (tok : Tok) (hwf : tok.WF mm) (rest : List Nat) :
    lexTok mm (serTok mm tok ++ rest) = some (tok, rest) := by
  cases tok with
  | lit c =>
    have hc : c ≤ lzLiteralSpan := hwf
    have hspan : lzLiteralSpan < 33 := by decide
    have h1 : isLiteral (65 + c) = true := by
      simp only [isLiteral, Bool.or_eq_true, Bool.and_eq_true, decide_eq_true_eq]; left; omega
    have h2 : ¬ 65 + c = 33 := by omega
    have h3 : ¬ c = 33 := by omega
    show lexTok mm ((65 + c) :: rest) = _
    rw [lexTok_literal mm h1, if_neg h2, Nat.add_sub_cancel_left, if_neg h3]
  | bang => exact lexTok_literal mm (by decide) rest
  | nrun n =>
    have hn : lzMinNRunLen ≤ n := hwf
    have hr := readInt_natDigits (n - lzMinNRunLen) lzNCode (by decide) rest
    simp only [serTok, List.cons_append, List.append_assoc, List.nil_append]
    rw [lexTok_nrun mm hr, Nat.sub_add_cancel hn]
    rfl
  | mtch d len =>
    obtain ⟨b, tl, e, h1, h2⟩ := appendInt_cons d
    cases len with
    | none =>
      have hr := readInt_appendInt d 46 (by decide) rest
      simp only [serTok, List.cons_append, List.append_assoc, List.nil_append]
      rw [e, List.cons_append] at hr ⊢
      exact lexTok_mtch_end mm h1 h2 hr
    | some l =>
      have hl : mm ≤ l := hwf
      have hr := readInt_appendInt d 44 (by decide) (natDigits (l - mm) ++ 46 :: rest)
      have hr2 := readInt_natDigits (l - mm) 46 (by decide) rest
      simp only [serTok, List.cons_append, List.append_assoc, List.nil_append]
      rw [e, List.cons_append] at hr ⊢
      rw [lexTok_mtch_len mm h1 h2 hr hr2, Nat.sub_add_cancel hl]
      rfl

theorem execTok_toList (refP : Array Nat) (refLen : Nat) (out : Array Nat) (pred : Nat) (tok : Tok) :
    (execTok refP refLen out pred tok).map (fun r => (r.1.toList, r.2)) =
      stepTok refP refLen (out.toList, pred) tok := by
  cases tok with
  | lit c => simp only [execTok, stepTok, Option.map_some, Array.toList_push]
  | bang =>
    simp only [execTok, stepTok]
    cases refP[pred]? with
    | none => rfl
    | some a => simp only [Option.map_some, Array.toList_push]
  | nrun n => simp only [execTok, stepTok, Option.map_some, Array.toList_append, Array.toList_replicate]
  | mtch d len =>
    -- both sides are the same cascade of tests; push the conversion to the leaves
    cases len <;>
      simp only [execTok, stepTok, apply_ite (Option.map _), Option.map_none, Option.map_some,
        Array.toList_append]

/-- **decode_serialize**, generalised over the decoder state. -/
theorem decodeGo_serialize {refP : Array Nat} {refLen mm : Nat} {ts : List Tok} (hwf : wellFormed mm ts)
    (out : Array Nat) (pred : Nat) :
    (decodeGo refP refLen mm (serialize mm ts) out pred).map Array.toList =
      (decToks refP refLen ts (out.toList, pred)).map (fun st => st.1) := by
  induction ts generalizing out pred with
  | nil => rw [serialize, decodeGo_nil]; rfl
  | cons tok ts ih =>
    have hlex : lexTok mm (serialize mm (tok :: ts)) = some (tok, serialize mm ts) :=
      lexTok_serTok mm tok (hwf tok List.mem_cons_self) _
    rw [decodeGo_step refP refLen mm out pred hlex, decToks, ← execTok_toList]
    cases execTok refP refLen out pred tok with
    | none => rfl
    | some r => exact ih (fun t ht => hwf t (List.mem_cons_of_mem tok ht)) r.1 r.2

theorem serTok_ne_nil (mm : Nat) (tok : Tok) : serTok mm tok ≠ [] := by
  rcases tok with _ | _ | _ | ⟨_, _ | _⟩ <;> simp [serTok]

theorem serialize_eq_flatMap (mm : Nat) (ts : List Tok) : serialize mm ts = ts.flatMap (serTok mm) := by
  induction ts with
  | nil => rfl
  | cons x xs ih => rw [serialize, ih, List.flatMap_cons]

/-- `encLen` is `encoded.len()`: the byte length of what has been emitted (tokens newest first). -/
theorem encLen_eq (mm : Nat) (toks : List Tok) : encLen mm toks = (serialize mm toks.reverse).length := by
  induction toks with
  | nil => rfl
  | cons x xs ih =>
    rw [encLen, ih, serialize_eq_flatMap, serialize_eq_flatMap, List.reverse_cons, List.flatMap_append,
      List.length_append, List.flatMap_singleton, Nat.add_comm]

theorem serialize_eq_nil (mm : Nat) (ts : List Tok) : serialize mm ts = [] ↔ ts = [] := by
  cases ts with
  | nil => exact iff_of_true rfl rfl
  | cons x xs =>
    refine iff_of_false (fun h => ?_) (List.cons_ne_nil x xs)
    exact serTok_ne_nil mm x (List.append_eq_nil_iff.mp h).1

/-- Shape of an emitted token: literals carry a code with property `P`, everything else is
    `Tok.WF` (run and match lengths are at least the minimum that their byte form subtracts). -/
def TokAll (mm : Nat) (P : Nat → Prop) : Tok → Prop
  | .lit c => P c
  | x => x.WF mm

theorem TokAll.wf {mm : Nat} {x : Tok} (h : TokAll mm (fun c => c ≤ lzLiteralSpan) x) : x.WF mm := by
  cases x <;> exact h

theorem serTok_lt (mm : Nat) (x : Tok) (hx : TokAll mm (fun c => c < 190) x) :
    ∀ b, b ∈ serTok mm x → b < 255 := by
  have hd : ∀ n b, b ∈ natDigits n → b < 255 := fun n b h =>
    Nat.lt_of_le_of_lt (natDigits_all n b h).2 (by decide)
  have hi : ∀ d b, b ∈ appendInt d → b < 255 := fun d b h => Nat.lt_of_le_of_lt (appendInt_le h) (by decide)
  rcases x with c | _ | n | ⟨d, _ | l⟩ <;>
    simp only [serTok, List.forall_mem_append, List.forall_mem_cons, List.not_mem_nil, false_imp_iff,
      implies_true, and_true]
  · exact Nat.add_lt_add_left (show c < 190 from hx) 65
  · decide
  · exact ⟨by decide, hd _, by decide⟩
  · exact ⟨hi d, by decide⟩
  · exact ⟨hi d, by decide, hd _, by decide⟩

end Ragc.Model.LzDiff
