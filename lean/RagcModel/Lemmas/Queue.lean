import RagcModel.Model.Queue
import RagcModel.Lemmas.ListFacts
/-!
Lemmas for C06 (bounded priority queue): induction over runs, the transition relation `Step` that
characterises `step`, what a step does to the shared data (`step_lin`: at most one linearisation
event, whose guard holds) and to the status counts, and the inductive invariants behind the
theorems of `Props/C06.lean`.
-/
namespace Ragc.Queue

theorem run_cons (cap : Nat) (s : State) (e : Event) (es : List Event) :
    run cap s (e :: es) = (step cap s e).bind (fun s' => run cap s' es) := by
  simp only [run]; cases step cap s e <;> rfl

theorem run_append (cap : Nat) (s : State) (es fs : List Event) :
    run cap s (es ++ fs) = (run cap s es).bind (fun s' => run cap s' fs) := by
  induction es generalizing s with
  | nil => rfl
  | cons e es ih =>
    rw [List.cons_append, run_cons, run_cons]
    cases step cap s e with
    | none => rfl
    | some s' => exact ih s'

theorem run_induction {cap : Nat} {motive : State → List Event → State → Prop}
    (nil : ∀ s, motive s [] s)
    (cons : ∀ {s e s1 es s'}, step cap s e = some s1 → run cap s1 es = some s' →
      motive s1 es s' → motive s (e :: es) s') :
    ∀ {evs : List Event} {s s' : State}, run cap s evs = some s' → motive s evs s'
  | [], s, _, h => Option.some.inj h ▸ nil s
  | e :: es, s, s', h => by
    obtain ⟨s1, hs, h⟩ := Option.bind_eq_some_iff.mp (run_cons cap s e es ▸ h)
    exact cons hs h (run_induction nil cons h)

theorem run_invariant {cap : Nat} {P : State → Prop} {Q : Event → Prop}
    (hstep : ∀ {s e s'}, P s → Q e → step cap s e = some s' → P s')
    {evs : List Event} {s0 s : State} (h0 : P s0) (hq : ∀ e ∈ evs, Q e)
    (hr : run cap s0 evs = some s) : P s :=
  run_induction (motive := fun s0 evs s => P s0 → (∀ e ∈ evs, Q e) → P s) (fun _ h _ => h)
    (fun hs _ ih h0 hq => ih (hstep h0 (hq _ List.mem_cons_self) hs)
      fun e he => hq e (List.mem_cons_of_mem _ he)) hr h0 hq

theorem run_invariant' {cap : Nat} {P : State → Prop}
    (hstep : ∀ {s e s'}, P s → step cap s e = some s' → P s')
    {evs : List Event} {s0 s : State} (h0 : P s0) (hr : run cap s0 evs = some s) : P s :=
  run_invariant (Q := fun _ => True) (fun hp _ => hstep hp) h0 (fun _ _ => trivial) hr

theorem get_set {l : List TStatus} {t u : Nat} {b st : TStatus}
    (h : (l.set t b)[u]? = some st) : (u = t ∧ st = b) ∨ (u ≠ t ∧ l[u]? = some st) := by
  by_cases htu : t = u
  · subst htu
    have hlt : t < l.length := List.length_set ▸ (List.getElem?_eq_some_iff.mp h).1
    rw [List.getElem?_set_self hlt] at h
    exact .inl ⟨rfl, (Option.some.inj h).symm⟩
  · rw [List.getElem?_set_ne htu] at h
    exact .inr ⟨fun h' => htu h'.symm, h⟩

theorem get_set_self {l : List TStatus} {t : Nat} {a b : TStatus} (h : l[t]? = some a) :
    (l.set t b)[t]? = some b :=
  List.getElem?_set_self (List.getElem?_eq_some_iff.mp h).1

theorem countP_eq_sum_map {α} (p : α → Bool) (l : List α) :
    l.countP p = (l.map fun x => (p x).toNat).sum := by
  induction l with
  | nil => rfl
  | cons x xs ih =>
    simp only [List.countP_cons, List.map_cons, List.sum_cons, ih]
    cases p x <;> simp only [Bool.toNat_true, Bool.toNat_false, if_true, if_false,
      Bool.false_eq_true] <;> omega

theorem countP_set_of_get {α} (p : α → Bool) {l : List α} {t : Nat} {a : α} (b : α)
    (h : l[t]? = some a) :
    (l.set t b).countP p + (p a).toNat = l.countP p + (p b).toNat := by
  simp only [countP_eq_sum_map]; exact ListFacts.sum_map_set _ b h

theorem countP_set_same {α} (p : α → Bool) {l : List α} {t : Nat} {a b : α} (h : l[t]? = some a)
    (hp : p a = p b) : (l.set t b).countP p = l.countP p :=
  Nat.add_right_cancel (hp ▸ countP_set_of_get p b h)

theorem countP_set_le {α} (p : α → Bool) {l : List α} {t : Nat} {a b : α} (h : l[t]? = some a)
    (hb : p b = false) : (l.set t b).countP p ≤ l.countP p :=
  Nat.le.intro (hb ▸ countP_set_of_get p b h)

theorem countP_pos_of_get {α} (p : α → Bool) {l : List α} {t : Nat} {a : α}
    (h : l[t]? = some a) (hp : p a = true) : 0 < l.countP p :=
  List.countP_pos_iff.mpr ⟨a, List.mem_of_getElem? h, hp⟩

theorem exists_of_countP_pos {p : TStatus → Bool} {l : List TStatus} (h : 0 < l.countP p) :
    ∃ (u : Nat) (st : TStatus), l[u]? = some st ∧ p st = true := by
  obtain ⟨x, hx, hp⟩ := List.countP_pos_iff.mp h
  obtain ⟨u, hu⟩ := List.getElem?_of_mem hx
  exact ⟨u, x, hu, hp⟩

theorem all_not_iff_countP_zero {α} {p : α → Bool} {l : List α} :
    l.all (fun x => !p x) = true ↔ l.countP p = 0 := by
  simp only [List.all_eq_true, Bool.not_eq_true', List.countP_eq_zero, Bool.not_eq_true]

theorem get2 {a b x : TStatus} {t : Nat} (h : [a, b][t]? = some x) :
    (t = 0 ∧ a = x) ∨ (t = 1 ∧ b = x) :=
  match t, h with
  | 0, h => .inl ⟨rfl, Option.some.inj h⟩
  | 1, h => .inr ⟨rfl, Option.some.inj h⟩
  | _ + 2, h => nomatch h

/-- after `notify_all` nobody is in a wait set -/
theorem wakeAll_awake (x : TStatus) : (wakeAll x).isWaitNF = false ∧ (wakeAll x).isWaitNE = false := by
  cases x <;> exact ⟨rfl, rfl⟩

theorem wakeAll_item (st : TStatus) : (wakeAll st).item? = st.item? := by cases st <;> rfl

theorem countP_map_eq_zero {α β} {f : α → β} {p : β → Bool} (h : ∀ x, p (f x) = false)
    (l : List α) : (l.map f).countP p = 0 := by
  rw [List.countP_map, List.countP_eq_zero]
  intro a _
  rw [Function.comp_apply, h]
  exact Bool.false_ne_true

theorem sizeSum_perm {l₁ l₂ : List Item} (h : l₁.Perm l₂) : sizeSum l₁ = sizeSum l₂ := by
  induction h with
  | nil => rfl
  | cons x _ ih => simp only [sizeSum, ih]
  | swap x y l => simp only [sizeSum]; omega
  | trans _ _ ih1 ih2 => exact ih1.trans ih2

theorem sizeSum_erase {l : List Item} {x : Item} (h : x ∈ l) :
    sizeSum (l.erase x) + x.size = sizeSum l := by
  rw [sizeSum_perm (List.perm_cons_erase h), sizeSum, Nat.add_comm]

theorem sizeSum_pos_ne_nil {l : List Item} (h : 0 < sizeSum l) : l ≠ [] := by
  rintro rfl; exact Nat.lt_irrefl 0 h

theorem sizeSum_pos_length {l : List Item} (h : 0 < sizeSum l) : 0 < l.length :=
  List.length_pos_iff.mpr (sizeSum_pos_ne_nil h)

theorem isMax_iff {items : List Item} {it : Item} :
    isMax items it = true ↔ it ∈ items ∧ ∀ y ∈ items, y.prio ≤ it.prio := by
  simp [isMax, List.all_eq_true]

/-- a non-empty queue has a maximal element (`BinaryHeap::pop` returns `Some`) -/
theorem exists_isMax : ∀ {items : List Item}, items ≠ [] → ∃ it, isMax items it = true
  | [], h => absurd rfl h
  | [x], _ => ⟨x, isMax_iff.mpr
      ⟨List.mem_singleton_self x, fun _ hy => List.mem_singleton.mp hy ▸ Nat.le_refl _⟩⟩
  | x :: y :: r, _ => by
    obtain ⟨m, hm⟩ := exists_isMax (List.cons_ne_nil y r)
    obtain ⟨hmem, hmax⟩ := isMax_iff.mp hm
    rcases Nat.le_total m.prio x.prio with hx | hx
    · exact ⟨x, isMax_iff.mpr ⟨List.mem_cons_self, fun z hz => (List.mem_cons.mp hz).elim
        (· ▸ Nat.le_refl _) fun hz => Nat.le_trans (hmax z hz) hx⟩⟩
    · exact ⟨m, isMax_iff.mpr ⟨List.mem_cons_of_mem _ hmem, fun z hz => (List.mem_cons.mp hz).elim
        (· ▸ hx) (hmax z)⟩⟩

open TStatus

inductive NotifNE : State → Option Nat → State → Prop
  | some {s : State} {u : Nat} : s.thr[u]? = some .waitNE → NotifNE s (some u) (s.setT u .notifNE)
  | none {s : State} : s.thr.countP isWaitNE = 0 → NotifNE s none s

inductive NotifNF : State → Option Nat → State → Prop
  | some {s : State} {u : Nat} {it : Item} :
      s.thr[u]? = some (.waitNF it) → NotifNF s (some u) (s.setT u (.notifNF it))
  | none {s : State} : s.thr.countP isWaitNF = 0 → NotifNF s none s

theorem notifyNE_iff {s s' : State} {w} : notifyNE s w = some s' ↔ NotifNE s w s' := by
  constructor
  · intro h
    cases w <;> simp only [notifyNE, Option.ite_none_right_eq_some, Option.some.injEq] at h <;>
      obtain ⟨hc, rfl⟩ := h
    · exact .none (all_not_iff_countP_zero.mp hc)
    · exact .some hc
  · intro h
    cases h with
    | some hu => simp only [notifyNE, hu, if_true]
    | none hz => simp only [notifyNE, all_not_iff_countP_zero.mpr hz, if_true]

theorem notifyNF_iff {s s' : State} {w} : notifyNF s w = some s' ↔ NotifNF s w s' := by
  constructor
  · intro h
    cases w with
    | none =>
      simp only [notifyNF, Option.ite_none_right_eq_some, Option.some.injEq] at h
      obtain ⟨hc, rfl⟩ := h
      exact .none (all_not_iff_countP_zero.mp hc)
    | some u =>
      simp only [notifyNF] at h
      split at h
      · next hu => cases h; exact .some hu
      · cases h
  · intro h
    cases h with
    | some hu => simp only [notifyNF, hu]
    | none hz => simp only [notifyNF, all_not_iff_countP_zero.mpr hz, if_true]

/-- `notify_one` can always be resolved: pick a waiter, or there is none -/
theorem notifyNE_enabled (s : State) : ∃ w s', notifyNE s w = some s' := by
  rcases Nat.eq_zero_or_pos (s.thr.countP isWaitNE) with h | h
  · exact ⟨none, s, notifyNE_iff.mpr (.none h)⟩
  · obtain ⟨u, x, hu, hw⟩ := exists_of_countP_pos h
    cases x <;> cases hw
    exact ⟨some u, _, notifyNE_iff.mpr (.some hu)⟩

theorem notifyNF_enabled (s : State) : ∃ w s', notifyNF s w = some s' := by
  rcases Nat.eq_zero_or_pos (s.thr.countP isWaitNF) with h | h
  · exact ⟨none, s, notifyNF_iff.mpr (.none h)⟩
  · obtain ⟨u, x, hu, hw⟩ := exists_of_countP_pos h
    cases x <;> cases hw
    exact ⟨some u, _, notifyNF_iff.mpr (.some hu)⟩

/-- `step` as a relation (`step_sound`, `step_complete`): one constructor per event, its guards as
premises. The invariants are proved by cases on it. -/
inductive Step (cap : Nat) : State → Event → State → Prop
  | pushEnter {s : State} {t : Nat} {it : Item} : s.thr[t]? = some .idle →
      Step cap s (.pushEnter t it) (s.setT t (.pushing it))
  | pushWait {s : State} {t : Nat} {it : Item} : s.thr[t]? = some (.pushing it) →
      s.cur + it.size > cap → s.items ≠ [] → s.closed = false →
      Step cap s (.pushWait t) (s.setT t (.waitNF it))
  | pushWake {s : State} {t : Nat} {it : Item} : s.thr[t]? = some (.notifNF it) →
      Step cap s (.pushWake t) (s.setT t (.pushing it))
  | pushSpur {s : State} {t : Nat} {it : Item} : s.thr[t]? = some (.waitNF it) →
      Step cap s (.pushSpur t) (s.setT t (.pushing it))
  | pushRefuse {s : State} {t : Nat} {it : Item} : s.thr[t]? = some (.pushing it) →
      s.closed = true → Step cap s (.pushRefuse t) ((s.setT t .idle).log (.refuse t it))
  | pushAdmit {s s' : State} {t : Nat} {it : Item} {w : Option Nat} :
      s.thr[t]? = some (.pushing it) → (s.cur + it.size ≤ cap ∨ s.items = []) → s.closed = false →
      NotifNE ((s.setT t .idle).enq t it) w s' → Step cap s (.pushAdmit t w) s'
  | tryPushRefuse {s : State} {t : Nat} {it : Item} : s.thr[t]? = some .idle → s.closed = true →
      Step cap s (.tryPushRefuse t it) (s.log (.refuse t it))
  | tryPushWouldBlock {s : State} {t : Nat} {it : Item} : s.thr[t]? = some .idle →
      s.closed = false → s.cur + it.size > cap → s.items ≠ [] →
      Step cap s (.tryPushWouldBlock t it) (s.log (.wouldBlock t it))
  | tryPushAdmit {s s' : State} {t : Nat} {it : Item} {w : Option Nat} : s.thr[t]? = some .idle →
      s.closed = false → (s.cur + it.size ≤ cap ∨ s.items = []) → NotifNE (s.enq t it) w s' →
      Step cap s (.tryPushAdmit t it w) s'
  | pullEnter {s : State} {t : Nat} : s.thr[t]? = some .idle →
      Step cap s (.pullEnter t) (s.setT t .pulling)
  | pullWait {s : State} {t : Nat} : s.thr[t]? = some .pulling → s.items = [] →
      s.closed = false → Step cap s (.pullWait t) (s.setT t .waitNE)
  | pullWake {s : State} {t : Nat} : s.thr[t]? = some .notifNE →
      Step cap s (.pullWake t) (s.setT t .pulling)
  | pullSpur {s : State} {t : Nat} : s.thr[t]? = some .waitNE →
      Step cap s (.pullSpur t) (s.setT t .pulling)
  | pullEos {s : State} {t : Nat} : s.thr[t]? = some .pulling → s.items = [] →
      s.closed = true → Step cap s (.pullEos t) ((s.setT t .idle).log (.eos t))
  | pullTake {s s' : State} {t : Nat} {it : Item} {w : Option Nat} :
      s.thr[t]? = some .pulling → it ∈ s.items → (∀ y ∈ s.items, y.prio ≤ it.prio) →
      NotifNF ((s.setT t .idle).take t it) w s' → Step cap s (.pullTake t it w) s'
  | tryPullEmpty {s : State} {t : Nat} : s.thr[t]? = some .idle → s.items = [] →
      Step cap s (.tryPullEmpty t) (s.log (.empty t))
  | tryPullTake {s s' : State} {t : Nat} {it : Item} {w : Option Nat} :
      s.thr[t]? = some .idle → it ∈ s.items → (∀ y ∈ s.items, y.prio ≤ it.prio) →
      NotifNF (s.take t it) w s' → Step cap s (.tryPullTake t it w) s'
  | close {s : State} {t : Nat} : s.thr[t]? = some .idle →
      Step cap s (.close t)
        { s with closed := true, thr := s.thr.map wakeAll, hist := .close t :: s.hist }

theorem step_sound {cap : Nat} {s s' : State} {e : Event} (h : step cap s e = some s') :
    Step cap s e s' := by
  cases e <;> simp only [step, Option.ite_none_right_eq_some, Option.some.injEq] at h
  case pushEnter t it => obtain ⟨hc, rfl⟩ := h; exact .pushEnter hc
  case pushWait t =>
    split at h
    · next it ht =>
      obtain ⟨hc, h⟩ := Option.ite_none_right_eq_some.mp h
      cases h; exact .pushWait ht hc.1 hc.2.1 hc.2.2
    · cases h
  case pushWake t =>
    split at h
    · next it ht => cases h; exact .pushWake ht
    · cases h
  case pushSpur t =>
    split at h
    · next it ht => cases h; exact .pushSpur ht
    · cases h
  case pushRefuse t =>
    split at h
    · next it ht =>
      obtain ⟨hc, h⟩ := Option.ite_none_right_eq_some.mp h
      cases h; exact .pushRefuse ht hc
    · cases h
  case pushAdmit t w =>
    split at h
    · next it ht =>
      obtain ⟨hc, h⟩ := Option.ite_none_right_eq_some.mp h
      exact .pushAdmit ht hc.1 hc.2 (notifyNE_iff.mp h)
    · cases h
  case tryPushRefuse t it => obtain ⟨hc, rfl⟩ := h; exact .tryPushRefuse hc.1 hc.2
  case tryPushWouldBlock t it =>
    obtain ⟨hc, rfl⟩ := h; exact .tryPushWouldBlock hc.1 hc.2.1 hc.2.2.1 hc.2.2.2
  case tryPushAdmit t it w => exact .tryPushAdmit h.1.1 h.1.2.1 h.1.2.2 (notifyNE_iff.mp h.2)
  case pullEnter t => obtain ⟨hc, rfl⟩ := h; exact .pullEnter hc
  case pullWait t => obtain ⟨hc, rfl⟩ := h; exact .pullWait hc.1 hc.2.1 hc.2.2
  case pullWake t => obtain ⟨hc, rfl⟩ := h; exact .pullWake hc
  case pullSpur t => obtain ⟨hc, rfl⟩ := h; exact .pullSpur hc
  case pullEos t => obtain ⟨hc, rfl⟩ := h; exact .pullEos hc.1 hc.2.1 hc.2.2
  case pullTake t it w =>
    have hm := isMax_iff.mp h.1.2
    exact .pullTake h.1.1 hm.1 hm.2 (notifyNF_iff.mp h.2)
  case tryPullEmpty t => obtain ⟨hc, rfl⟩ := h; exact .tryPullEmpty hc.1 hc.2
  case tryPullTake t it w =>
    have hm := isMax_iff.mp h.1.2
    exact .tryPullTake h.1.1 hm.1 hm.2 (notifyNF_iff.mp h.2)
  case close t => obtain ⟨hc, rfl⟩ := h; exact .close hc

theorem step_complete {cap : Nat} {s s' : State} {e : Event} (h : Step cap s e s') :
    step cap s e = some s' := by
  cases h with
  | pushEnter ht | pullEnter ht | pullWake ht | pullSpur ht | close ht =>
    simp only [step, ht, if_true]
  | pushWake ht | pushSpur ht => simp only [step, ht]
  | pushRefuse ht hc => simp only [step, ht, hc, if_true]
  | tryPushRefuse ht hc | tryPullEmpty ht hc => simp only [step, ht, hc, and_self, if_true]
  | pullWait ht he hc | pullEos ht he hc => simp only [step, ht, he, hc, and_self, if_true]
  | pushWait ht h1 h2 h3 | tryPushWouldBlock ht h1 h2 h3 =>
    simp only [step, ht, h1, h2, h3, ne_eq, not_false_eq_true, and_self, if_true]
  | pushAdmit ht hf hc hn | tryPushAdmit ht hc hf hn =>
    simp only [step, ht, hf, hc, and_self, if_true, notifyNE_iff.mpr hn]
  | pullTake ht hm hmax hn | tryPullTake ht hm hmax hn =>
    simp only [step, ht, isMax_iff.mpr ⟨hm, hmax⟩, and_self, if_true, notifyNF_iff.mpr hn]

theorem step_isSome {cap : Nat} {s : State} {e : Event} :
    (step cap s e).isSome ↔ ∃ s', Step cap s e s' := by
  rw [Option.isSome_iff_exists]
  exact exists_congr fun _ => ⟨step_sound, step_complete⟩

section notify
variable {s s' : State} {w : Option Nat}

theorem NotifNE.same (h : NotifNE s w s') : s' = { s with thr := s'.thr } := by
  cases h <;> rfl

theorem NotifNF.same (h : NotifNF s w s') : s' = { s with thr := s'.thr } := by
  cases h <;> rfl

/-- what a `notify_one` does to the thread list: nothing, or one entry `x` becomes `wakeAll x` -/
inductive Woke (l : List TStatus) : List TStatus → Prop
  | none : Woke l l
  | one {u : Nat} {x : TStatus} : l[u]? = .some x → Woke l (l.set u (wakeAll x))

theorem NotifNE.woke (h : NotifNE s w s') : Woke s.thr s'.thr := by
  cases h with
  | some hu => exact .one hu
  | none => exact .none

theorem NotifNF.woke (h : NotifNF s w s') : Woke s.thr s'.thr := by
  cases h with
  | some hu => exact .one hu
  | none => exact .none

theorem Woke.length {l l' : List TStatus} (h : Woke l l') : l'.length = l.length := by
  cases h with
  | none => rfl
  | one => exact List.length_set

theorem Woke.get {l l' : List TStatus} (h : Woke l l') {u : Nat} {st' : TStatus}
    (hu : l'[u]? = .some st') : ∃ st, l[u]? = .some st ∧ (st' = st ∨ st' = wakeAll st) := by
  cases h with
  | none => exact ⟨_, hu, .inl rfl⟩
  | one hx =>
    rcases get_set hu with ⟨rfl, rfl⟩ | ⟨_, h⟩
    · exact ⟨_, hx, .inr rfl⟩
    · exact ⟨_, h, .inl rfl⟩

/-- `notify_one` on `not_empty` in terms of the status counts: one waiter less if there was one, it
is notified now, nobody else changes. -/
theorem NotifNE.countP (h : NotifNE s w s') :
    s'.thr.countP isWaitNE = s.thr.countP isWaitNE - 1 ∧
    (0 < s.thr.countP isWaitNE → s'.thr.countP isNotifNE = s.thr.countP isNotifNE + 1) ∧
    ∀ p : TStatus → Bool, p .waitNE = false → p .notifNE = false →
      s'.thr.countP p = s.thr.countP p := by
  cases h with
  | none hz => exact ⟨hz ▸ rfl, fun h => absurd (hz ▸ h) (Nat.lt_irrefl 0), fun _ _ _ => rfl⟩
  | @some u hu =>
    have e1 : (s.setT u .notifNE).thr.countP isWaitNE + 1 = s.thr.countP isWaitNE :=
      countP_set_of_get isWaitNE _ hu
    exact ⟨Nat.eq_sub_of_add_eq e1, fun _ => countP_set_of_get isNotifNE _ hu,
      fun p h1 h2 => countP_set_same p hu (h1.trans h2.symm)⟩

theorem NotifNF.countP (h : NotifNF s w s') :
    s'.thr.countP isWaitNF = s.thr.countP isWaitNF - 1 ∧
    ∀ p : TStatus → Bool, (∀ it, p (.waitNF it) = false) → (∀ it, p (.notifNF it) = false) →
      s'.thr.countP p = s.thr.countP p := by
  cases h with
  | none hz => exact ⟨hz ▸ rfl, fun _ _ _ => rfl⟩
  | @some u it hu =>
    have e1 : (s.setT u (.notifNF it)).thr.countP isWaitNF + 1 = s.thr.countP isWaitNF :=
      countP_set_of_get isWaitNF _ hu
    exact ⟨Nat.eq_sub_of_add_eq e1, fun p h1 h2 => countP_set_same p hu ((h1 it).trans (h2 it).symm)⟩

end notify

/-- The guard of linearisation event `e` on a queue that holds `items`, with byte counter `cur` and
flag `closed`. -/
def HEv.ok (cap : Nat) (items : List Item) (cur : Nat) (closed : Bool) : HEv → Prop
  | .accept _ x => closed = false ∧ (cur + x.size ≤ cap ∨ items = [])
  | .take _ x => x ∈ items ∧ ∀ y ∈ items, y.prio ≤ x.prio
  | .refuse _ _ => closed = true
  | .wouldBlock _ x => closed = false ∧ cur + x.size > cap ∧ items ≠ []
  | .eos _ => closed = true ∧ items = []
  | .empty _ => items = []
  | .close _ => True

theorem HEv.ok_perm {cap : Nat} {l₁ l₂ : List Item} {cur : Nat} {closed : Bool} (hp : l₁.Perm l₂)
    {e : HEv} (h : e.ok cap l₁ cur closed) : e.ok cap l₂ cur closed := by
  have hnil : l₁ = [] → l₂ = [] := fun h => (h ▸ hp).symm.eq_nil
  cases e with
  | accept t x => exact ⟨h.1, h.2.imp_right hnil⟩
  | take t x => exact ⟨hp.mem_iff.mp h.1, fun y hy => h.2 y (hp.mem_iff.mpr hy)⟩
  | wouldBlock t x => exact ⟨h.1, h.2.1, fun h2 => h.2.2 ((h2 ▸ hp).eq_nil)⟩
  | eos t => exact ⟨h.1, hnil h.2⟩
  | empty t => exact hnil h
  | refuse | close => exact h

/-- The effect of a linearisation event on `(items, cur, closed, hist)`. -/
def State.lin (s : State) : HEv → State
  | .accept t it => s.enq t it
  | .take t it => s.take t it
  | .close t => { s with closed := true, hist := .close t :: s.hist }
  | e => s.log e

theorem State.lin_hist (s : State) (ev : HEv) : (s.lin ev).hist = ev :: s.hist := by
  cases ev <;> rfl

/-- the byte counter follows the items (the `-=` of lines 216/242 does not underflow) -/
theorem State.lin_cur {cap : Nat} {s : State} {ev : HEv} (hc : s.cur = sizeSum s.items)
    (hok : ev.ok cap s.items s.cur s.closed) : (s.lin ev).cur = sizeSum (s.lin ev).items := by
  cases ev with
  | accept t x => show s.cur + x.size = x.size + sizeSum s.items; rw [hc, Nat.add_comm]
  | take t x => exact Nat.sub_eq_of_eq_add (hc.trans (sizeSum_erase hok.1).symm)
  | _ => exact hc

/-- the status a thread must have to take event `e` -/
def Event.pre : Event → TStatus → Bool
  | .pushEnter _ _ | .tryPushRefuse _ _ | .tryPushWouldBlock _ _ | .tryPushAdmit _ _ _
  | .pullEnter _ | .tryPullEmpty _ | .tryPullTake _ _ _ | .close _ => isIdle
  | .pushWait _ | .pushRefuse _ | .pushAdmit _ _ => isPushing
  | .pushWake _ => isNotifNF
  | .pushSpur _ => isWaitNF
  | .pullWait _ | .pullEos _ | .pullTake _ _ _ => isPulling
  | .pullWake _ => isNotifNE
  | .pullSpur _ => isWaitNE

theorem pre_waitNF {e : Event} {it : Item} (h : e.pre (.waitNF it) = true) : e = .pushSpur e.tid := by
  cases e <;> first | rfl | cases h

/-- the linearisation event that `e` logs when the acting thread has status `a` -/
def Event.lin : Event → TStatus → Option HEv
  | .pushRefuse t, a => a.item?.map (.refuse t)
  | .pushAdmit t _, a => a.item?.map (.accept t)
  | .tryPushRefuse t it, _ => some (.refuse t it)
  | .tryPushWouldBlock t it, _ => some (.wouldBlock t it)
  | .tryPushAdmit t it _, _ => some (.accept t it)
  | .pullEos t, _ => some (.eos t)
  | .pullTake t it _, _ => some (.take t it)
  | .tryPullEmpty t, _ => some (.empty t)
  | .tryPullTake t it _, _ => some (.take t it)
  | .close t, _ => some (.close t)
  | _, _ => none

/-- Every step is taken by a thread in the right status `a`. Apart from the thread statuses it
changes nothing (a stutter), or it performs exactly one linearisation event `ev`, whose guard
holds. -/
theorem step_lin {cap : Nat} {s s' : State} {e : Event} (h : Step cap s e s') :
    ∃ a, s.thr[e.tid]? = some a ∧ e.pre a = true ∧
      match e.lin a with
      | none => ∃ l, s' = { s with thr := l }
      | some ev => ev.ok cap s.items s.cur s.closed ∧ ∃ l, s' = { s.lin ev with thr := l } := by
  cases h with
  | pushEnter ht | pushWait ht | pushWake ht | pushSpur ht | pullEnter ht | pullWait ht | pullWake ht
  | pullSpur ht => exact ⟨_, ht, rfl, _, rfl⟩
  | close ht => exact ⟨_, ht, rfl, trivial, _, rfl⟩
  | pushRefuse ht hc | tryPushRefuse ht hc => exact ⟨_, ht, rfl, hc, _, rfl⟩
  | pushAdmit ht hf hc hn | tryPushAdmit ht hc hf hn => exact ⟨_, ht, rfl, ⟨hc, hf⟩, _, hn.same⟩
  | tryPushWouldBlock ht hc hf hne => exact ⟨_, ht, rfl, ⟨hc, hf, hne⟩, _, rfl⟩
  | pullEos ht he hc => exact ⟨_, ht, rfl, ⟨hc, he⟩, _, rfl⟩
  | pullTake ht hm hmax hn | tryPullTake ht hm hmax hn =>
    exact ⟨_, ht, rfl, ⟨hm, hmax⟩, _, hn.same⟩
  | tryPullEmpty ht he => exact ⟨_, ht, rfl, he, _, rfl⟩

/-- every linearisation event was enabled on the queue contents replayed from the events before it -/
def HistOK (cap : Nat) : List HEv → Prop
  | [] => True
  | e :: h => e.ok cap (queuedOf h) (sizeSum (queuedOf h)) (closedIn h) ∧ HistOK cap h

/-- The shared data agree with the linearisation history: the byte counter is the sum of the queued
sizes, the capacity bound, the history replays to the queue and the flag, and every event of the
history was enabled where it happened. -/
structure InvA (cap : Nat) (s : State) : Prop where
  cur_eq : s.cur = sizeSum s.items
  /-- within capacity, or exactly one item is queued (it was admitted into the empty queue) -/
  bound : s.cur ≤ cap ∨ ∃ x, s.items = [x]
  perm : (queuedOf s.hist).Perm s.items
  closed_eq : s.closed = closedIn s.hist
  hist : HistOK cap s.hist

theorem InvA_init (cap n : Nat) : InvA cap (init n) :=
  ⟨rfl, .inl (Nat.zero_le _), List.Perm.refl _, rfl, trivial⟩

theorem InvA.thr {cap : Nat} {s : State} (h : InvA cap s) (l : List TStatus) :
    InvA cap { s with thr := l } := ⟨h.1, h.2, h.3, h.4, h.5⟩

theorem InvA.lin {cap : Nat} {s : State} {ev : HEv} (hi : InvA cap s)
    (hok : ev.ok cap s.items s.cur s.closed) : InvA cap (s.lin ev) := by
  have hcur := State.lin_cur hi.cur_eq hok
  have hh : HistOK cap (ev :: s.hist) := by
    refine ⟨HEv.ok_perm hi.perm.symm ?_, hi.hist⟩
    rw [sizeSum_perm hi.perm, ← hi.cur_eq, ← hi.closed_eq]
    exact hok
  cases ev with
  | accept t x =>
    exact ⟨hcur, hok.2.imp_right fun he => ⟨x, congrArg (x :: ·) he⟩, hi.perm.cons x,
      hi.closed_eq, hh⟩
  | take t x =>
    refine ⟨hcur, .inl ?_, hi.perm.erase x, hi.closed_eq, hh⟩
    show s.cur - x.size ≤ cap
    rcases hi.bound with hb | ⟨y, hy⟩
    · exact Nat.le_trans (Nat.sub_le _ _) hb
    · -- the only queued item leaves
      have hx : x = y := List.mem_singleton.mp (hy ▸ hok.1)
      have := hi.cur_eq
      rw [hy, ← hx] at this
      exact this ▸ Nat.le_trans (Nat.le_of_eq (Nat.sub_self (x.size + 0))) (Nat.zero_le _)
  | close t => exact ⟨hcur, hi.2, hi.3, rfl, hh⟩
  | refuse | wouldBlock | eos | empty => exact ⟨hcur, hi.2, hi.3, hi.4, hh⟩

theorem InvA_step {cap : Nat} {s s' : State} {e : Event} (hi : InvA cap s)
    (hs : step cap s e = some s') : InvA cap s' := by
  obtain ⟨a, _, _, h⟩ := step_lin (step_sound hs)
  split at h
  · obtain ⟨l, rfl⟩ := h; exact hi.thr l
  · obtain ⟨hok, l, rfl⟩ := h; exact (hi.lin hok).thr l

theorem InvA_run {cap n : Nat} {evs : List Event} {s : State}
    (h : run cap (init n) evs = some s) : InvA cap s :=
  run_invariant' InvA_step (InvA_init cap n) h

theorem HistOK_suffix {cap : Nat} (h2 h1 : List HEv) (hk : HistOK cap (h2 ++ h1)) :
    HistOK cap h1 := by
  induction h2 with
  | nil => exact hk
  | cons e h2 ih => exact ih hk.2

/-- the guard of an event of the history held on what the history before it leaves queued -/
theorem HistOK_at {cap n : Nat} {evs : List Event} {s : State} (h : run cap (init n) evs = some s)
    {h2 h1 : List HEv} {e : HEv} (hh : s.hist = h2 ++ e :: h1) :
    e.ok cap (queuedOf h1) (sizeSum (queuedOf h1)) (closedIn h1) :=
  (HistOK_suffix h2 (e :: h1) (hh ▸ (InvA_run h).hist)).1

theorem closedIn_iff {h : List HEv} : closedIn h = true ↔ ∃ t, HEv.close t ∈ h := by
  simp only [closedIn, List.any_eq_true]
  constructor
  · rintro ⟨e, he, hc⟩
    cases e <;> cases hc
    exact ⟨_, he⟩
  · rintro ⟨t, ht⟩
    exact ⟨_, ht, rfl⟩

theorem accepted_perm {cap : Nat} : ∀ (h : List HEv), HistOK cap h →
    (accepted h).Perm (queuedOf h ++ returned h)
  | [], _ => List.Perm.refl _
  | .accept _ x :: h, hk => (accepted_perm h hk.2).cons x
  | .take _ _ :: h, hk =>
    (accepted_perm h hk.2).trans
      (((List.perm_cons_erase hk.1.1).append_right _).trans List.perm_middle.symm)
  | .refuse _ _ :: h, hk | .wouldBlock _ _ :: h, hk | .eos _ :: h, hk | .empty _ :: h, hk
  | .close _ :: h, hk => accepted_perm h hk.2

/-- Close leaves no waiter; and no lost wake-up on `not_empty`: while a consumer sleeps, every queued
item is covered by a consumer on its way (notified, or running inside `pull`). -/
structure InvB (s : State) : Prop where
  closedNF : s.closed = true → s.thr.countP isWaitNF = 0
  closedNE : s.closed = true → s.thr.countP isWaitNE = 0
  ne : 0 < s.thr.countP isWaitNE →
    s.items.length ≤ s.thr.countP isNotifNE + s.thr.countP isPulling

theorem countP_replicate_idle (n : Nat) {p : TStatus → Bool} (hp : p .idle = false) :
    (List.replicate n TStatus.idle).countP p = 0 := by
  rw [List.countP_replicate, hp]; rfl

theorem InvB_init (n : Nat) : InvB (init n) :=
  ⟨fun _ => countP_replicate_idle n rfl, fun _ => countP_replicate_idle n rfl,
    fun _ => Nat.zero_le _⟩

/-- close the three goals of `InvB` once the count equations are in the context -/
macro "bfin " s:term ", " h1:ident h2:ident h3:ident : tactic => `(tactic| (
  refine ⟨fun hc => ?_, fun hc => ?_, fun hw => ?_⟩
  · simp only [State.setT, State.enq, State.take, State.log] at hc ⊢
    first | (have := $h1 hc; omega) | (exfalso; simp_all)
  · simp only [State.setT, State.enq, State.take, State.log] at hc ⊢
    first | (have := $h2 hc; omega) | (exfalso; simp_all)
  · simp only [State.setT, State.enq, State.take, State.log, List.length_cons] at hw ⊢
    by_cases hW : 0 < List.countP isWaitNE (State.thr $s)
    · have := $h3 hW; omega
    · omega))

/-- Thread `t` moves from status `a` to `b` while the flag stays and the items may change. A thread
joins a wait set only on an open queue, and `not_empty`'s only on an empty one; a consumer on its
way (notified or running) stays on its way unless the queue is empty afterwards or an item left
with it. -/
theorem InvB.of_set {s s' : State} {t : Nat} {a b : TStatus} (hi : InvB s) (ht : s.thr[t]? = some a)
    (hthr : s'.thr = s.thr.set t b) (hcl : s'.closed = s.closed)
    (hNF : b.isWaitNF = true → s.closed = false)
    (hNE : b.isWaitNE = true → s.closed = false ∧ s'.items = [])
    (hcov : s'.items = [] ∨ s'.items.length + (a.isNotifNE.toNat + a.isPulling.toNat) ≤
      s.items.length + (b.isNotifNE.toNat + b.isPulling.toNat)) : InvB s' := by
  have e : ∀ p : TStatus → Bool, s'.thr.countP p + (p a).toNat = s.thr.countP p + (p b).toNat :=
    fun p => hthr ▸ countP_set_of_get p b ht
  have le : ∀ p : TStatus → Bool, p b = false → s'.thr.countP p ≤ s.thr.countP p :=
    fun p hb => hthr ▸ countP_set_le p ht hb
  refine ⟨fun hc => ?_, fun hc => ?_, fun hw => ?_⟩
  · replace hc := hcl ▸ hc
    cases hb : b.isWaitNF with
    | true => exact absurd ((hNF hb).symm.trans hc) Bool.false_ne_true
    | false => exact Nat.le_zero.mp (hi.closedNF hc ▸ le _ hb)
  · replace hc := hcl ▸ hc
    cases hb : b.isWaitNE with
    | true => exact absurd ((hNE hb).1.symm.trans hc) Bool.false_ne_true
    | false => exact Nat.le_zero.mp (hi.closedNE hc ▸ le _ hb)
  · rcases hcov with he | hcov
    · rw [he]; exact Nat.zero_le _
    · cases hb : b.isWaitNE with
      | true => rw [(hNE hb).2]; exact Nat.zero_le _
      | false =>
        have hcv := hi.ne (Nat.lt_of_lt_of_le hw (le _ hb))
        have ecov : s'.thr.countP isNotifNE + s'.thr.countP isPulling +
            (a.isNotifNE.toNat + a.isPulling.toNat) = s.thr.countP isNotifNE +
            s.thr.countP isPulling + (b.isNotifNE.toNat + b.isPulling.toNat) := by
          rw [Nat.add_add_add_comm, e isNotifNE, e isPulling, Nat.add_add_add_comm]
        exact Nat.le_of_add_le_add_right
          (Nat.le_trans hcov (ecov ▸ Nat.add_le_add_right hcv _))

section
variable {s s' : State} {w : Option Nat}

theorem InvB.mono (hi : InvB s) (hthr : s'.thr = s.thr) (hcl : s'.closed = s.closed)
    (hlen : s'.items.length ≤ s.items.length) : InvB s' := by
  refine ⟨fun hc => ?_, fun hc => ?_, fun hw => ?_⟩
  · rw [hthr]; exact hi.closedNF (hcl ▸ hc)
  · rw [hthr]; exact hi.closedNE (hcl ▸ hc)
  · rw [hthr] at hw ⊢; exact Nat.le_trans hlen (hi.ne hw)

/-- one `notify_one` per admitted item suffices -/
theorem InvB.enq_notifNE {t : Nat} {it : Item} (hi : InvB s) (hn : NotifNE (s.enq t it) w s') :
    InvB s' := by
  have hc := hn.countP
  simp only [State.enq] at hc
  obtain ⟨e1, e2, fr⟩ := hc
  rw [hn.same]
  refine ⟨fun hc => ?_, fun hc => ?_, fun hw => ?_⟩
  · exact (fr isWaitNF rfl rfl).trans (hi.closedNF hc)
  · show s'.thr.countP isWaitNE = 0
    rw [e1, hi.closedNE hc]
  · have h0 : 0 < s.thr.countP isWaitNE := Nat.lt_of_lt_of_le hw (e1 ▸ Nat.sub_le _ _)
    show s.items.length + 1 ≤ s'.thr.countP isNotifNE + s'.thr.countP isPulling
    rw [e2 h0, fr isPulling rfl rfl, Nat.add_right_comm]
    exact Nat.succ_le_succ (hi.ne h0)

theorem InvB.notifNF (hn : NotifNF s w s') (hi : InvB s) : InvB s' := by
  obtain ⟨e1, fr⟩ := hn.countP
  rw [hn.same]
  refine ⟨fun hc => ?_, fun hc => ?_, fun hw => ?_⟩
  · show s'.thr.countP isWaitNF = 0
    rw [e1, hi.closedNF hc]
  · exact (fr isWaitNE (fun _ => rfl) (fun _ => rfl)).trans (hi.closedNE hc)
  · show s.items.length ≤ s'.thr.countP isNotifNE + s'.thr.countP isPulling
    rw [fr isNotifNE (fun _ => rfl) (fun _ => rfl), fr isPulling (fun _ => rfl) (fun _ => rfl)]
    exact hi.ne (fr isWaitNE (fun _ => rfl) (fun _ => rfl) ▸ hw)

end

theorem InvB_step {cap : Nat} {s s' : State} {e : Event} (hi : InvB s)
    (hs : step cap s e = some s') : InvB s' := by
  cases step_sound hs with
  | pushEnter ht | pushWake ht | pushSpur ht | pushRefuse ht | pullWake ht =>
    exact hi.of_set ht rfl rfl nofun nofun (.inr (Nat.le_refl _))
  | pushWait ht _ _ hc => exact hi.of_set ht rfl rfl (fun _ => hc) nofun (.inr (Nat.le_refl _))
  | pushAdmit ht _ _ hn =>
    exact InvB.enq_notifNE (s := s.setT _ .idle)
      (hi.of_set ht rfl rfl nofun nofun (.inr (Nat.le_refl _))) hn
  | tryPushRefuse | tryPushWouldBlock | tryPullEmpty => exact hi.mono rfl rfl (Nat.le_refl _)
  | tryPushAdmit _ _ _ hn => exact hi.enq_notifNE hn
  | pullEnter ht | pullSpur ht => exact hi.of_set ht rfl rfl nofun nofun (.inr (Nat.le_succ _))
  | pullWait ht he hc => exact hi.of_set ht rfl rfl nofun (fun _ => ⟨hc, he⟩) (.inl he)
  | pullEos ht he => exact hi.of_set ht rfl rfl nofun nofun (.inl he)
  | @pullTake _ t it _ ht hm _ hn =>
    refine InvB.notifNF hn (hi.of_set (b := .idle) ht rfl rfl nofun nofun (.inr ?_))
    show (s.items.erase it).length + 1 ≤ s.items.length
    rw [List.length_erase_of_mem hm]
    exact Nat.le_of_eq (Nat.sub_add_cancel (List.length_pos_of_mem hm))
  | tryPullTake _ _ _ hn => exact InvB.notifNF hn (hi.mono rfl rfl (List.length_erase_le ..))
  | close =>
    have hw := countP_map_eq_zero (fun x => (wakeAll_awake x).2) s.thr
    exact ⟨fun _ => countP_map_eq_zero (fun x => (wakeAll_awake x).1) _, fun _ => hw,
      fun h => absurd (hw ▸ h) (Nat.lt_irrefl 0)⟩

theorem InvB_run {cap n : Nat} {evs : List Event} {s : State}
    (h : run cap (init n) evs = some s) : InvB s :=
  run_invariant' InvB_step (InvB_init n) h

/-- every `push` that is started carries an item that fits on its own (only used to state
witnesses; since the repair of D5 no invariant needs it) -/
def FitsEv (cap : Nat) : Event → Prop
  | .pushEnter _ it => it.size ≤ cap
  | _ => True

instance (cap : Nat) : DecidablePred (FitsEv cap) := fun e => by
  cases e <;> simp only [FitsEv] <;> infer_instance

/-- A producer goes to sleep only on a non-empty queue (line 108), and the take that empties the
queue notifies: while a producer sleeps un-notified the queue is non-empty or a producer is on its
way. No hypothesis on the sizes. -/
def InvC (s : State) : Prop :=
  0 < s.thr.countP isWaitNF →
    0 < s.items.length + s.thr.countP isNotifNF + s.thr.countP isPushing

theorem InvC_init (n : Nat) : InvC (init n) :=
  fun h => absurd (countP_replicate_idle n (p := isWaitNF) rfl ▸ h) (Nat.lt_irrefl 0)

/-- close the `nf` goal of `InvC` once the count equations are in the context -/
macro "cfin " s:term ", " h4:ident : tactic => `(tactic| (
  intro hw
  simp only [State.setT, State.enq, State.take, State.log, List.length_cons] at hw ⊢
  by_cases hW : 0 < List.countP isWaitNF (State.thr $s)
  · have := $h4 hW; omega
  · omega))

/-- Thread `t` moves from status `a` to `b`. A thread joins `not_full`'s wait set only on a
non-empty queue; a producer on its way (notified or running) stays on its way unless the queue is
non-empty afterwards or closed (then nobody waits, `InvB`). -/
theorem InvC.of_set {s s' : State} {t : Nat} {a b : TStatus} (hi : InvC s) (hb : InvB s)
    (ht : s.thr[t]? = some a) (hthr : s'.thr = s.thr.set t b)
    (hNF : b.isWaitNF = true → s'.items ≠ [])
    (hcov : s'.items ≠ [] ∨ s.closed = true ∨
      s.items.length + (a.isNotifNF.toNat + a.isPushing.toNat) ≤
        s'.items.length + (b.isNotifNF.toNat + b.isPushing.toNat)) : InvC s' := by
  have e : ∀ p : TStatus → Bool, s'.thr.countP p + (p a).toNat = s.thr.countP p + (p b).toNat :=
    fun p => hthr ▸ countP_set_of_get p b ht
  intro hw
  have hpos : s'.items ≠ [] → 0 < s'.items.length + s'.thr.countP isNotifNF +
      s'.thr.countP isPushing := fun h => Nat.lt_of_lt_of_le (List.length_pos_iff.mpr h)
    (Nat.le_trans (Nat.le_add_right _ _) (Nat.le_add_right _ _))
  cases hw' : b.isWaitNF with
  | true => exact hpos (hNF hw')
  | false =>
    have hle : s'.thr.countP isWaitNF ≤ s.thr.countP isWaitNF := hthr ▸ countP_set_le _ ht hw'
    rcases hcov with h | h | h
    · exact hpos h
    · exact absurd (Nat.lt_of_lt_of_le hw (hb.closedNF h ▸ hle)) (Nat.lt_irrefl 0)
    · have := hi (Nat.lt_of_lt_of_le hw hle)
      have := e isNotifNF
      have := e isPushing
      omega

section
variable {s s' : State} {w : Option Nat}

theorem InvC.mono (hi : InvC s) (hthr : s'.thr = s.thr)
    (hlen : s.items.length ≤ s'.items.length) : InvC s' := by
  intro hw
  rw [hthr] at hw ⊢
  exact Nat.lt_of_lt_of_le (hi hw) (Nat.add_le_add_right (Nat.add_le_add_right hlen _) _)

theorem InvC.notifNE (hn : NotifNE s w s') (hi : InvC s) : InvC s' := by
  obtain ⟨_, _, fr⟩ := hn.countP
  rw [hn.same]
  intro hw
  show 0 < s.items.length + s'.thr.countP isNotifNF + s'.thr.countP isPushing
  rw [fr isNotifNF rfl rfl, fr isPushing rfl rfl]
  exact hi (fr isWaitNF rfl rfl ▸ hw)

/-- after a `notify_one` on `not_full` a producer is on its way, or none sleeps -/
theorem InvC.of_notifNF (hn : NotifNF s w s') : InvC s' := by
  intro hw
  cases hn with
  | none hz => exact absurd (hz ▸ hw) (Nat.lt_irrefl 0)
  | some hu =>
    exact Nat.lt_of_lt_of_le (countP_pos_of_get isNotifNF (get_set_self hu) rfl)
      (Nat.le_trans (Nat.le_add_left _ _) (Nat.le_add_right _ _))

end

theorem InvC_step {cap : Nat} {s s' : State} {e : Event} (hb : InvB s) (hi : InvC s)
    (hs : step cap s e = some s') : InvC s' := by
  cases step_sound hs with
  | pushEnter ht | pushSpur ht => exact hi.of_set hb ht rfl nofun (.inr (.inr (Nat.le_succ _)))
  | pushWait ht _ hne => exact hi.of_set hb ht rfl (fun _ => hne) (.inl hne)
  | pushWake ht | pullEnter ht | pullWait ht | pullWake ht | pullSpur ht | pullEos ht =>
    exact hi.of_set hb ht rfl nofun (.inr (.inr (Nat.le_refl _)))
  | pushRefuse ht hc => exact hi.of_set hb ht rfl nofun (.inr (.inl hc))
  | pushAdmit ht _ _ hn =>
    exact InvC.notifNE hn (hi.of_set (b := .idle) hb ht rfl nofun (.inl (List.cons_ne_nil _ _)))
  | tryPushRefuse | tryPushWouldBlock | tryPullEmpty => exact hi.mono rfl (Nat.le_refl _)
  | tryPushAdmit _ _ _ hn => exact InvC.notifNE hn (hi.mono rfl (Nat.le_succ _))
  | pullTake _ _ _ hn | tryPullTake _ _ _ hn => exact .of_notifNF hn
  | close =>
    exact fun h => absurd (countP_map_eq_zero (fun x => (wakeAll_awake x).1) s.thr ▸ h)
      (Nat.lt_irrefl 0)

theorem InvC_run {cap n : Nat} {evs : List Event} {s : State}
    (h : run cap (init n) evs = some s) : InvC s :=
  (run_invariant' (P := fun s => InvB s ∧ InvC s)
    (fun hi hs => ⟨InvB_step hi.1 hs, InvC_step hi.1 hi.2 hs⟩)
    ⟨InvB_init n, InvC_init n⟩ h).2

/-- only thread `p` calls the blocking `push` -/
def OnlyPusher (p : Nat) : Event → Prop
  | .pushEnter t _ => t = p
  | _ => True

instance (p : Nat) : DecidablePred (OnlyPusher p) := fun e => by
  cases e <;> simp only [OnlyPusher] <;> infer_instance

/-- `not_full` with one producer `p`: a sleeping producer is `p`, and its item really does not fit. -/
structure InvD (cap p : Nat) (s : State) : Prop where
  only : ∀ t st, s.thr[t]? = some st → st.item? ≠ none → t = p
  wait : ∀ (t : Nat) (it : Item), s.thr[t]? = some (TStatus.waitNF it) →
    s.cur + it.size > cap ∧ s.items ≠ [] ∧ s.closed = false

theorem InvD_init (cap p n : Nat) : InvD cap p (init n) := by
  have idle : ∀ {t : Nat} {st : TStatus}, (init n).thr[t]? = some st → st = .idle :=
    fun h => (List.mem_replicate.mp (List.mem_of_getElem? h)).2
  exact ⟨fun _ _ h hne => absurd (idle h ▸ rfl) hne, fun _ _ h => nomatch idle h⟩

theorem InvD_setT {cap p : Nat} {s : State} {t : Nat} {b : TStatus} (hi : InvD cap p s)
    (hb1 : b.item? ≠ none → t = p)
    (hb2 : ∀ it, b = .waitNF it → s.cur + it.size > cap ∧ s.items ≠ [] ∧ s.closed = false) :
    InvD cap p (s.setT t b) := by
  constructor
  · intro u st h hne
    rcases get_set h with ⟨rfl, rfl⟩ | ⟨_, h'⟩
    · exact hb1 hne
    · exact hi.only u st h' hne
  · intro u it h
    rcases get_set h with ⟨rfl, hb⟩ | ⟨_, h'⟩
    · exact hb2 it hb.symm
    · exact hi.wait u it h'

section
variable {cap p : Nat} {s s' : State} {w : Option Nat}

theorem InvD.setT_none {t : Nat} {b : TStatus} (hi : InvD cap p s) (hb : b.item? = none) :
    InvD cap p (s.setT t b) :=
  InvD_setT hi (fun h => absurd hb h) (fun _ h => nomatch h ▸ hb)

theorem InvD.notifNE (hn : NotifNE s w s') (hi : InvD cap p s) :
    InvD cap p s' := by
  cases hn with
  | some _ => exact hi.setT_none rfl
  | none _ => exact hi

/-- an admission keeps a sleeping producer's item from fitting -/
theorem InvD.enq (hi : InvD cap p s) (t : Nat) (it : Item) :
    InvD cap p (s.enq t it) :=
  ⟨hi.only, fun u x hu =>
    let ⟨h1, _, h3⟩ := hi.wait u x hu
    ⟨Nat.lt_of_lt_of_le h1 (Nat.add_le_add_right (Nat.le_add_right _ _) _), List.cons_ne_nil _ _, h3⟩⟩

/-- After a take nobody sleeps in `not_full.wait`: the only thread that can (`p`) is the one the
`notify_one` picks. -/
theorem InvD.take_notifNF {t : Nat} {it : Item}
    (hi : InvD cap p s) (hn : NotifNF (s.take t it) w s') : InvD cap p s' := by
  cases hn with
  | @some u x hu =>
    have hup : u = p := hi.only u _ hu nofun
    refine ⟨(InvD_setT (b := .notifNF x) hi (fun _ => hup) nofun).only, fun v y hv => ?_⟩
    rcases get_set hv with ⟨_, hb⟩ | ⟨hvu, hv'⟩
    · cases hb
    · exact absurd ((hi.only v _ hv' nofun).trans hup.symm) hvu
  | none hz =>
    refine ⟨hi.only, fun v y hv => ?_⟩
    have := countP_pos_of_get isWaitNF hv rfl
    omega

end

theorem InvD_step {cap p : Nat} {s s' : State} {e : Event} (hi : InvD cap p s)
    (hq : OnlyPusher p e) (hs : step cap s e = some s') : InvD cap p s' := by
  cases step_sound hs with
  | pushEnter => exact InvD_setT hi (fun _ => hq) nofun
  | pushWait ht hfull hne hc =>
    exact InvD_setT hi (fun _ => hi.only _ _ ht nofun) (fun _ h => by cases h; exact ⟨hfull, hne, hc⟩)
  | pushWake ht | pushSpur ht => exact InvD_setT hi (fun _ => hi.only _ _ ht nofun) nofun
  | pushRefuse | pullEos => exact ⟨(hi.setT_none rfl).only, (hi.setT_none rfl).wait⟩
  | pushAdmit _ _ _ hn => exact InvD.notifNE hn ((hi.setT_none rfl).enq _ _)
  | tryPushRefuse | tryPushWouldBlock | tryPullEmpty => exact ⟨hi.only, hi.wait⟩
  | tryPushAdmit _ _ _ hn => exact InvD.notifNE hn (hi.enq _ _)
  | pullEnter | pullWait | pullWake | pullSpur => exact hi.setT_none rfl
  | pullTake _ _ _ hn => exact (hi.setT_none rfl).take_notifNF hn
  | tryPullTake _ _ _ hn => exact hi.take_notifNF hn
  | close =>
    constructor
    · intro v st hv hne
      simp only [List.getElem?_map, Option.map_eq_some_iff] at hv
      obtain ⟨b, hb, rfl⟩ := hv
      exact hi.only _ _ hb (wakeAll_item b ▸ hne)
    · intro v y hv
      simp only [List.getElem?_map, Option.map_eq_some_iff] at hv
      obtain ⟨b, _, hb⟩ := hv
      exact nomatch hb ▸ (wakeAll_awake b).1

theorem InvD_run {cap p n : Nat} {evs : List Event} {s : State}
    (hq : ∀ e ∈ evs, OnlyPusher p e) (h : run cap (init n) evs = some s) : InvD cap p s :=
  run_invariant (Q := OnlyPusher p) InvD_step (InvD_init cap p n) hq h

/-- Once the queue is closed, a thread inside a call always has an enabled event of its own that
brings it strictly closer to returning (`rank`: waiting 3, notified 2, running 1, returned 0). -/
theorem closed_progress_aux {cap : Nat} {s : State} (hb : InvB s) (hc : s.closed = true)
    {t : Nat} {st : TStatus} (ht : s.thr[t]? = some st) (hne : st ≠ .idle) :
    ∃ e s' st', e.tid = t ∧ step cap s e = some s' ∧ s'.thr[t]? = some st' ∧ st'.rank < st.rank := by
  cases st with
  | idle => exact absurd rfl hne
  | pushing it =>
    exact ⟨.pushRefuse t, _, .idle, rfl, step_complete (.pushRefuse ht hc), get_set_self ht,
      Nat.lt_succ_self _⟩
  | waitNF it => exact absurd (hb.closedNF hc ▸ countP_pos_of_get isWaitNF ht rfl) (Nat.lt_irrefl 0)
  | notifNF it =>
    exact ⟨.pushWake t, _, .pushing it, rfl, step_complete (.pushWake ht), get_set_self ht,
      Nat.lt_succ_self _⟩
  | pulling =>
    by_cases he : s.items = []
    · exact ⟨.pullEos t, _, .idle, rfl, step_complete (.pullEos ht he hc), get_set_self ht,
        Nat.lt_succ_self _⟩
    · obtain ⟨it, hmax⟩ := exists_isMax he
      have hm := isMax_iff.mp hmax
      have hz : ((s.setT t .idle).take t it).thr.countP isWaitNF = 0 :=
        (countP_set_same isWaitNF (b := .idle) ht rfl).trans (hb.closedNF hc)
      exact ⟨.pullTake t it none, _, .idle, rfl, step_complete (.pullTake ht hm.1 hm.2 (.none hz)),
        get_set_self ht, Nat.lt_succ_self _⟩
  | waitNE => exact absurd (hb.closedNE hc ▸ countP_pos_of_get isWaitNE ht rfl) (Nat.lt_irrefl 0)
  | notifNE =>
    exact ⟨.pullWake t, _, .pulling, rfl, step_complete (.pullWake ht), get_set_self ht,
      Nat.lt_succ_self _⟩

/-- every item offered to the queue by `e` satisfies `R` -/
def OffersOnly (R : Item → Prop) : Event → Prop
  | .pushEnter _ it => R it
  | .tryPushAdmit _ it _ => R it
  | _ => True

instance (R : Item → Prop) [DecidablePred R] : DecidablePred (OffersOnly R) := fun e => by
  cases e <;> simp only [OffersOnly] <;> infer_instance

/-- provenance: whatever is carried or accepted was offered by a push event -/
structure InvR (R : Item → Prop) (s : State) : Prop where
  carried : ∀ st ∈ s.thr, ∀ it, st.item? = some it → R it
  acc : ∀ x ∈ accepted s.hist, R x

theorem InvR_init (R : Item → Prop) (n : Nat) : InvR R (init n) :=
  ⟨fun _ hst _ hit => (nomatch (List.mem_replicate.mp hst).2 ▸ hit), nofun⟩

section
variable {R : Item → Prop} {s s' : State} {w : Option Nat}

theorem InvR.get {t : Nat} {a : TStatus} (hi : InvR R s) (ht : s.thr[t]? = some a) :
    ∀ it, a.item? = some it → R it :=
  hi.carried a (List.mem_of_getElem? ht)

theorem InvR.setT {t : Nat} {b : TStatus} (hi : InvR R s) (hb : ∀ it, b.item? = some it → R it) :
    InvR R (s.setT t b) :=
  ⟨fun st hst => (List.mem_or_eq_of_mem_set hst).elim (hi.carried st) (· ▸ hb), hi.acc⟩

theorem InvR.data (hi : InvR R s) (hthr : s'.thr = s.thr)
    (hacc : accepted s'.hist = accepted s.hist) : InvR R s' :=
  ⟨hthr ▸ hi.carried, hacc ▸ hi.acc⟩

theorem InvR.enq {it : Item} (hi : InvR R s) (hit : R it) (t : Nat) :
    InvR R (s.enq t it) :=
  ⟨hi.carried, fun x hx => (List.mem_cons.mp hx).elim (· ▸ hit) (hi.acc x)⟩

theorem InvR.woke {l : List TStatus} (hw : Woke s.thr l) (hi : InvR R s) :
    InvR R { s with thr := l } := by
  cases hw with
  | none => exact ⟨hi.carried, hi.acc⟩
  | one hx => exact hi.setT fun it h => hi.get hx it (wakeAll_item _ ▸ h)

end

theorem InvR_step {cap : Nat} {R : Item → Prop} {s s' : State} {e : Event}
    (hi : InvR R s) (hq : OffersOnly R e) (hs : step cap s e = some s') : InvR R s' := by
  cases step_sound hs with
  | pushEnter => exact hi.setT fun _ h => Option.some.inj h ▸ hq
  | pushWait ht | pushWake ht | pushSpur ht => exact hi.setT fun it => hi.get ht it
  | pushRefuse | pullEos => exact (hi.setT (b := .idle) nofun).data rfl rfl
  | pushAdmit ht _ _ hn =>
    exact hn.same ▸ InvR.woke hn.woke ((hi.setT (b := .idle) nofun).enq (hi.get ht _ rfl) _)
  | tryPushRefuse | tryPushWouldBlock | tryPullEmpty => exact hi.data rfl rfl
  | tryPushAdmit _ _ _ hn => exact hn.same ▸ InvR.woke hn.woke (hi.enq hq _)
  | pullEnter | pullWait | pullWake | pullSpur => exact hi.setT nofun
  | pullTake _ _ _ hn =>
    exact hn.same ▸ InvR.woke hn.woke ((hi.setT (b := .idle) nofun).data rfl rfl)
  | tryPullTake _ _ _ hn => exact hn.same ▸ InvR.woke hn.woke (hi.data rfl rfl)
  | close =>
    refine ⟨fun st hst it' hit => ?_, hi.acc⟩
    obtain ⟨b, hb, rfl⟩ := List.mem_map.mp hst
    exact hi.carried b hb it' (wakeAll_item b ▸ hit)

theorem InvR_run {cap n : Nat} {R : Item → Prop} {evs : List Event} {s : State}
    (hq : ∀ e ∈ evs, OffersOnly R e) (h : run cap (init n) evs = some s) : InvR R s :=
  run_invariant (Q := OffersOnly R) InvR_step (InvR_init R n) hq h

/-- the items that the events of a run offer to the queue -/
def offered : List Event → List Item
  | [] => []
  | .pushEnter _ it :: es => it :: offered es
  | .tryPushAdmit _ it _ :: es => it :: offered es
  | _ :: es => offered es

theorem offersOnly_mono {R R' : Item → Prop} (h : ∀ x, R x → R' x) {e : Event}
    (he : OffersOnly R e) : OffersOnly R' e := by
  cases e <;> first | exact trivial | exact h _ he

theorem offersOnly_offered (evs : List Event) : ∀ e ∈ evs, OffersOnly (· ∈ offered evs) e := by
  induction evs with
  | nil => exact fun _ h => nomatch h
  | cons a es ih =>
    intro e he
    rcases List.mem_cons.mp he with rfl | he
    · cases e <;> simp [OffersOnly, offered]
    · refine offersOnly_mono (fun x hx => ?_) (ih e he)
      cases a <;> simp [offered, hx]

namespace Demo

def a : Item := ⟨1, 7, 4⟩
def b : Item := ⟨2, 9, 6⟩
def c : Item := ⟨3, 9, 1⟩

/-- three threads: 0 produces, 1 consumes, 2 closes. The consumer blocks on the empty queue and is
notified; the producer blocks on the full queue and is notified; two items of equal priority are
queued together; close wakes the blocked consumer; the last push is refused. -/
def evs : List Event :=
  [ .pullEnter 1, .pullWait 1,                       -- consumer blocks: queue empty
    .pushEnter 0 a, .pushAdmit 0 (some 1),           -- admit a, notify the consumer
    .pushEnter 0 b, .pushAdmit 0 none,               -- a+b = 10 = cap
    .pushEnter 0 c, .pushWait 0,                     -- c does not fit: producer blocks
    .pullWake 1, .pullTake 1 b (some 0),             -- b (prio 9) before a (prio 7); notify producer
    .pushWake 0, .pushAdmit 0 none,                  -- now c fits
    .pullEnter 1, .pullTake 1 c none,
    .pullEnter 1, .pullTake 1 a none,
    .pullEnter 1, .pullWait 1,                       -- blocks again
    .close 2,                                        -- notify_all
    .pullWake 1, .pullEos 1,
    .pushEnter 0 a, .pushRefuse 0 ]

def final : State :=
  { items := [], cur := 0, closed := true, thr := [.idle, .idle, .idle],
    hist := [.refuse 0 a, .eos 1, .close 2, .take 1 a, .take 1 c, .accept 0 c, .take 1 b,
             .accept 0 b, .accept 0 a] }

theorem run_evs : run 10 (init 3) evs = some final := by decide

/-- a prefix that stops in a state with a blocked producer and queued items -/
def mid : State :=
  { items := [b, a], cur := 10, closed := false, thr := [.waitNF c, .notifNE, .idle],
    hist := [.accept 0 b, .accept 0 a] }

theorem run_mid : run 10 (init 3) (evs.take 8) = some mid := by decide

/-- right after `close`: the blocked consumer has been notified and has not resumed yet -/
def afterClose : State :=
  { items := [], cur := 0, closed := true, thr := [.idle, .notifNE, .idle],
    hist := [.close 2, .take 1 a, .take 1 c, .accept 0 c, .take 1 b, .accept 0 b, .accept 0 a] }

theorem run_afterClose : run 10 (init 3) (evs.take 19) = some afterClose := by decide

/-- the consumer asleep on the empty queue -/
def asleep : State := { items := [], cur := 0, closed := false, thr := [.idle, .waitNE, .idle], hist := [] }

theorem run_asleep : run 10 (init 3) (evs.take 2) = some asleep := by decide

/-! two producers: a wake-up goes to the one that cannot use it -/
def X : Item := ⟨1, 0, 5⟩
def Y : Item := ⟨2, 0, 5⟩
def A : Item := ⟨3, 0, 10⟩
def B : Item := ⟨4, 0, 5⟩

/-- capacity 10. Thread 0 fills the queue with X and Y (5+5); producer 1 blocks with A (10),
producer 2 blocks with B (5); thread 0 takes X, the `notify_one` goes to producer 1, which wakes,
still does not fit (5+10 > 10) and waits again. -/
def evs2 : List Event :=
  [ .tryPushAdmit 0 X none, .tryPushAdmit 0 Y none,
    .pushEnter 1 A, .pushWait 1,
    .pushEnter 2 B, .pushWait 2,
    .tryPullTake 0 X (some 1),
    .pushWake 1, .pushWait 1 ]

def stuck2 : State :=
  { items := [Y], cur := 5, closed := false, thr := [.idle, .waitNF A, .waitNF B],
    hist := [.take 0 X, .accept 0 Y, .accept 0 X] }

theorem run_evs2 : run 10 (init 3) evs2 = some stuck2 := by decide

/-- in `stuck2` only thread 0 (by starting a new call) or a spurious wake-up can do anything -/
theorem stuck2_enabled (e : Event) (s' : State) (h : step 10 stuck2 e = some s') :
    e.tid = 0 ∨ e = .pushSpur 1 ∨ e = .pushSpur 2 := by
  obtain ⟨st, ht, hp, -⟩ := step_lin (step_sound h)
  cases hk : e.tid with
  | zero => exact .inl rfl
  | succ k =>
    rw [hk] at ht
    rcases get2 (a := .waitNF A) ht with ⟨rfl, rfl⟩ | ⟨rfl, rfl⟩
    · exact .inr (.inl ((pre_waitNF hp).trans (congrArg Event.pushSpur hk)))
    · exact .inr (.inr ((pre_waitNF hp).trans (congrArg Event.pushSpur hk)))

/-! an item larger than the capacity (after the repair of D5, commit c0ac607) -/
def Big : Item := ⟨1, 0, 6⟩
def small : Item := ⟨2, 0, 2⟩

/-- capacity 4, empty queue, a sleeping consumer: the 6-byte item is admitted at once, the consumer
is notified and takes it.

Before the repair the same prefix `[pullEnter 1, pullWait 1, pushEnter 0 Big]` continued with
`pushWait 0` into `{items := [], thr := [waitNF Big, waitNE]}`, a state in which only spurious
wake-ups were enabled (the former witness `oversize_blocks`, defect D5). -/
def evs3 : List Event :=
  [ .pullEnter 1, .pullWait 1, .pushEnter 0 Big, .pushAdmit 0 (some 1), .pullWake 1,
    .pullTake 1 Big none ]

/-- after the admission: 6 bytes queued with capacity 4, exactly one item -/
def over3 : State :=
  { items := [Big], cur := 6, closed := false, thr := [.idle, .notifNE], hist := [.accept 0 Big] }

def final3 : State :=
  { items := [], cur := 0, closed := false, thr := [.idle, .idle],
    hist := [.take 1 Big, .accept 0 Big] }

theorem run_over3 : run 4 (init 2) (evs3.take 4) = some over3 := by decide
theorem run_evs3 : run 4 (init 2) evs3 = some final3 := by decide

/-- capacity 4, 2 bytes queued: the 6-byte push sleeps (non-empty queue), the take that empties the
queue notifies it, and it is admitted into the empty queue. -/
def evs4 : List Event :=
  [ .tryPushAdmit 0 small none, .pushEnter 0 Big, .pushWait 0, .tryPullTake 1 small (some 0),
    .pushWake 0, .pushAdmit 0 none ]

def final4 : State :=
  { items := [Big], cur := 6, closed := false, thr := [.idle, .idle],
    hist := [.accept 0 Big, .take 1 small, .accept 0 small] }

theorem run_evs4 : run 4 (init 2) evs4 = some final4 := by decide

end Demo

end Ragc.Queue
