import RagcModel.Model.LzDiff
/-!
C09: one-step unfolding lemmas for the well-founded loops of `Model/LzDiff.lean` (the encoder loop,
the decoder loop, the index insertion loop): one equation per branch of the Rust loop body. The
concrete evaluations of C09 (`example`s, the code-30 witness) and `decodeGo_serialize` are computed
with some of them; the set is kept complete.
-/
namespace Ragc.Model.LzDiff
open Ragc.Gen

section enc
variable (S : UInt64 → List Nat) (mm : Nat) (hmm : lzHashingStep ≤ mm) (refP : Array Nat)
    (refLen : Nat) (t : Array Nat) (i pred npl : Nat) (toks : List Tok) (xprev : Option UInt64)

/-- loop exit (437, 559-566): the remaining symbols become literals. -/
theorem encLoop_done (h : ¬ i + keyLen mm < t.size) :
    encLoop S mm hmm refP refLen t i pred npl toks xprev = some (tailLits t i toks) := by
  rw [encLoop, dif_neg h]

/-- N-run step (453-462). -/
theorem encLoop_nrun (hlt : i + keyLen mm < t.size)
    (hx : nextCode xprev npl t i (keyLen mm) = .invalid) (hn : nrunLen t i ≥ lzMinNRunLen) :
    encLoop S mm hmm refP refLen t i pred npl toks xprev =
      encLoop S mm hmm refP refLen t (i + nrunLen t i) pred 0 (.nrun (nrunLen t i) :: toks) none := by
  rw [encLoop, dif_pos hlt]
  simp only [hx, dif_pos hn]

/-- literal step when the k-mer contains a non-ACGT symbol and there is no N run (463-469). -/
theorem encLoop_lit_invalid {c : Nat} (hlt : i + keyLen mm < t.size)
    (hx : nextCode xprev npl t i (keyLen mm) = .invalid) (hn : ¬ nrunLen t i ≥ lzMinNRunLen)
    (hc : t[i]? = some c) :
    encLoop S mm hmm refP refLen t i pred npl toks xprev =
      encLoop S mm hmm refP refLen t (i + 1) (pred + 1) (npl + 1) (.lit c :: toks) none := by
  rw [encLoop, dif_pos hlt]
  simp only [hx, dif_neg hn, hc]

/-- literal step when no match is found (545-555). -/
theorem encLoop_lit_nomatch {code : UInt64} {c : Nat} (hlt : i + keyLen mm < t.size)
    (hx : nextCode xprev npl t i (keyLen mm) = .ok code)
    (hf : findBest mm refP t code i npl (S code) = .noMatch) (hc : t[i]? = some c) :
    encLoop S mm hmm refP refLen t i pred npl toks xprev =
      encLoop S mm hmm refP refLen t (i + 1) (pred + 1) (npl + 1) (.lit c :: toks) (some code) := by
  rw [encLoop, dif_pos hlt]
  simp only [hx]
  split
  · next h => cases hf.symm.trans h
  · simp only [hc]
  · next h => cases hf.symm.trans h

/-- match step (478-544): pop the back-extended literals, rewrite bangs, emit the match. -/
theorem encLoop_found {code : UInt64} {mpos bck fwd : Nat} (hlt : i + keyLen mm < t.size)
    (hx : nextCode xprev npl t i (keyLen mm) = .ok code)
    (hf : findBest mm refP t code i npl (S code) = .found mpos bck fwd) :
    encLoop S mm hmm refP refLen t i pred npl toks xprev =
      encLoop S mm hmm refP refLen t (i - bck + (bck + fwd)) (mpos - bck + (bck + fwd)) 0
        (Tok.mtch (((mpos - bck : Nat) : Int) - ((pred - bck : Nat) : Int))
            (matchLenField refLen t.size (i - bck) (bck + fwd) mpos fwd)
          :: rewriteBang refP (mpos - bck) (pred - bck) (encLen mm (toks.drop bck)) (toks.drop bck))
        (some code) := by
  rw [encLoop, dif_pos hlt]
  simp only [hx]
  split
  · next h => cases hf.symm.trans h
  · next h => cases hf.symm.trans h
  · next a b c h =>
    cases hf.symm.trans h
    rfl

end enc

/-- `encode` past the `target == reference` test (405-418). -/
theorem encodeToks_loop (S : UInt64 → List Nat) (mm : Nat) (ref tgt : List Nat) (hmm : lzHashingStep ≤ mm)
    (hne : ¬ (tgt.length = ref.length ∧ (tgt.zip (padRef mm ref).toList).all (fun p => p.1 == p.2) = true)) :
    encodeToks S mm ref tgt =
      (encLoop S mm hmm (padRef mm ref) ref.length tgt.toArray 0 0 0 [] none).map List.reverse := by
  unfold encodeToks
  rw [dif_pos hmm, if_neg hne]

section dec
variable (refP : Array Nat) (refLen mm : Nat)

theorem decodeGo_nil (out : Array Nat) (pred : Nat) : decodeGo refP refLen mm [] out pred = some out := by
  rw [decodeGo]; simp

theorem decodeGo_lex_none {bytes : List Nat} (out : Array Nat) (pred : Nat) (hne : bytes ≠ [])
    (hl : lexTok mm bytes = none) : decodeGo refP refLen mm bytes out pred = none := by
  rw [decodeGo, if_neg hne]
  split
  · rfl
  · next h => cases hl.symm.trans h

theorem decodeGo_step {bytes rest : List Nat} {tok : Tok} (out : Array Nat) (pred : Nat)
    (hl : lexTok mm bytes = some (tok, rest)) :
    decodeGo refP refLen mm bytes out pred =
      match execTok refP refLen out pred tok with
      | none => none
      | some (out', pred') => decodeGo refP refLen mm rest out' pred' := by
  have hne : bytes ≠ [] := by
    intro h; subst h; simp [lexTok] at hl
  rw [decodeGo, if_neg hne]
  split
  · next h => cases hl.symm.trans h
  · next tok' rest' h =>
    cases hl.symm.trans h
    rfl
end dec

section index
variable (refP : Array Nat) (k : Nat)

theorem insertLoop_done (tbl : Array Nat) (i : Nat) (h : ¬ i + k < refP.size) :
    insertLoop refP k tbl i = tbl := by
  rw [insertLoop, dif_neg h]

theorem insertLoop_ok (tbl : Array Nat) (i : Nat) {code : UInt64} (h : i + k < refP.size)
    (hc : getCode refP i k = .ok code) :
    insertLoop refP k tbl i =
      insertLoop refP k
        (probeInsert tbl ((murmur64 code).toNat % tbl.size) (i / lzHashingStep) lzMaxNoTries 0)
        (i + lzHashingStep) := by
  rw [insertLoop, dif_pos h]
  simp only [hc]

theorem insertLoop_skip (tbl : Array Nat) (i : Nat) (h : i + k < refP.size)
    (hc : ∀ code, getCode refP i k ≠ .ok code) :
    insertLoop refP k tbl i = insertLoop refP k tbl (i + lzHashingStep) := by
  rw [insertLoop, dif_pos h]
  split
  · next code hcode => exact absurd hcode (hc code)
  · rfl
end index

end Ragc.Model.LzDiff
