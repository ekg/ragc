import RagcModel.Model.SegCompress
import RagcModel.Lemmas.Tuple
/-!
Helper lemmas for C12 about `Model/SegCompress.lean`: the marker framing of reference segments and
packs around the tuple round trip of `Lemmas/Tuple.lean`, and the stored-part framing.
-/
namespace Ragc.SegCompress
open Ragc.Tuple

/-- `decompress_segment_with_marker` on a ZSTD frame of `y`: the frame is not empty unless `y` is,
so the marker decides between `y` itself and its tuple decoding. -/
theorem decompress_zc (tb : List Nat → Option (List Nat))
    (zc : Nat → List Nat → List Nat) (zd : List Nat → Option (List Nat))
    (hz : ∀ l x, zd (zc l x) = some x) (hne : ∀ l x, zc l x = [] → x = [])
    (l : Nat) (y : List Nat) (m : Nat) {x : List Nat} (h0 : y = [] → x = [])
    (hy : (if m == 0 then some y else tb y) = some x) :
    decompressWithMarkerMode tb zd (zc l y) m = some x := by
  unfold decompressWithMarkerMode
  by_cases he : (zc l y).isEmpty
  · rw [if_pos he, h0 (hne l y (List.isEmpty_iff.mp he))]
  · rw [if_neg he, hz]; exact hy

theorem decompress_compressRefWith (tbMode : Bool)
    (zc : Nat → List Nat → List Nat) (zd : List Nat → Option (List Nat))
    (hz : ∀ l x, zd (zc l x) = some x) (hne : ∀ l x, zc l x = [] → x = [])
    (useTuples : Bool) (x : List Nat) :
    decompressWithMarkerMode (tuplesToBytesMode tbMode) zd
      (compressRefWith zc useTuples x).1 (compressRefWith zc useTuples x).2 = some x := by
  cases useTuples
  · exact decompress_zc _ zc zd hz hne _ x 0 id rfl
  · exact decompress_zc _ zc zd hz hne _ _ 1 (fun h => absurd h (bytesToTuples_ne_nil x))
      (tuplesToBytesMode_bytesToTuples tbMode x)

/-- Reading back a framed part: raw parts come back verbatim, compressed parts go through
`decompressWithMarker` with the pushed marker. -/
theorem unframe_frame (zd : List Nat → Option (List Nat)) (compressed : List Nat) (marker : Nat)
    (raw : List Nat) (h : decompressWithMarker zd compressed marker = some raw) :
    unframePart zd (framePart compressed marker raw).1 (framePart compressed marker raw).2
      = some raw := by
  unfold framePart unframePart
  by_cases hl : (compressed ++ [marker]).length < raw.length
  · have hpos : (raw.length == 0) = false := by rw [beq_eq_false_iff_ne]; omega
    have hne : (compressed ++ [marker]).isEmpty = false := by simp
    simp only [if_pos hl, hpos, Bool.false_eq_true, if_false, hne, List.dropLast_concat,
      List.getLast?_concat, Option.getD_some]
    exact h
  · simp only [if_neg hl]; rfl

end Ragc.SegCompress
