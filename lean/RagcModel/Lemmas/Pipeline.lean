import RagcModel.Model.Pipeline
import RagcModel.Lemmas.ListFacts
/-!
Helper definitions and lemmas for the pipeline protocol model (C04, C05).

Every counting argument goes through `tally f g`: the `f`-weight of the items not yet pulled plus the
`g`-weight of the workers. The potential of C05, the token and contig accounts of the C05 invariant
`Inv5` and the per-round accounts of the C04 invariant `Inv4` are tallies, and a handful of lemmas say
how each kind of transition changes a tally. `Scan` is the local criterion through which the programs
of the CLI are shown to be well formed, `PrioSep` and `RdOk`.
-/
namespace Ragc.Pipeline

/-! ### sums over lists -/

def sumBy {α : Type} (f : α → Nat) (l : List α) : Nat := (l.map f).sum

@[simp] theorem sumBy_nil {α} (f : α → Nat) : sumBy f [] = 0 := rfl
@[simp] theorem sumBy_cons {α} (f : α → Nat) (a : α) (l : List α) : sumBy f (a :: l) = f a + sumBy f l :=
  List.sum_cons
@[simp] theorem sumBy_append {α} (f : α → Nat) (l m : List α) : sumBy f (l ++ m) = sumBy f l + sumBy f m := by
  simp only [sumBy, List.map_append, List.sum_append]

theorem sumBy_set {α} (f : α → Nat) (l : List α) (i : Nat) (a b : α) (h : l[i]? = some a) :
    sumBy f (l.set i b) + f a = sumBy f l + f b :=
  ListFacts.sum_map_set f b h

theorem sumBy_set_eq {α} {f : α → Nat} {l : List α} {i : Nat} {a b : α} (h : l[i]? = some a) (hab : f a = f b) :
    sumBy f (l.set i b) = sumBy f l :=
  Nat.add_right_cancel (hab ▸ sumBy_set f l i a b h :)

theorem sumBy_erase {α} [DecidableEq α] (f : α → Nat) (l : List α) (x : α) (h : x ∈ l) :
    sumBy f (l.erase x) + f x = sumBy f l :=
  (Nat.add_comm ..).trans ((List.perm_cons_erase h).map f).sum_nat.symm

theorem sumBy_replicate {α} (f : α → Nat) (n : Nat) (a : α) : sumBy f (List.replicate n a) = n * f a := by
  rw [sumBy, List.map_replicate, List.sum_replicate_nat]

theorem sumBy_const {α} (f : α → Nat) (l : List α) (a : α) (h : ∀ v ∈ l, v = a) :
    sumBy f l = l.length * f a := by
  rw [List.eq_replicate_iff.mpr ⟨rfl, h⟩, sumBy_replicate, List.length_replicate]

theorem sumBy_map_const {α} (f : α → Nat) (l : List α) (b : α) :
    sumBy f (l.map (fun _ => b)) = l.length * f b := by
  rw [List.map_const', sumBy_replicate]

theorem sumBy_map_const_zero {α} (f : α → Nat) {b : α} (h : f b = 0) (l : List α) :
    sumBy f (l.map fun _ => b) = 0 := by
  rw [sumBy_map_const, h]; rfl

theorem sumBy_map_eq {α} {f : α → Nat} {l : List α} {a b : α} (h : ∀ v ∈ l, v = a) (hab : f a = f b) :
    sumBy f (l.map fun _ => b) = sumBy f l := by
  rw [sumBy_map_const, sumBy_const f l a h, hab]

theorem sumBy_eq_zero_iff {α} {f : α → Nat} {l : List α} : sumBy f l = 0 ↔ ∀ x ∈ l, f x = 0 := by
  rw [sumBy, List.sum_eq_zero_iff_forall_eq_nat, List.forall_mem_map]

/-- a sum of indicators is a count -/
theorem sumBy_indicator {α} (p : α → Prop) [DecidablePred p] (l : List α) :
    sumBy (fun x => if p x then 1 else 0) l = l.countP (fun x => decide (p x)) := by
  induction l with
  | nil => rfl
  | cons a l ih => rw [sumBy_cons, ih, List.countP_cons, Nat.add_comm]; simp only [decide_eq_true_eq]

/-! ### the items of a program -/

@[simp] theorem items_nil : items [] = [] := rfl
@[simp] theorem items_push (x : Item) (p : List Instr) : items (.push x :: p) = x :: items p := rfl
@[simp] theorem items_wait (p : List Instr) : items (.waitEmpty :: p) = items p := rfl
@[simp] theorem items_close (p : List Instr) : items (.close :: p) = items p := rfl
theorem items_append (a b : List Instr) : items (a ++ b) = items a ++ items b := by
  induction a with
  | nil => rfl
  | cons i a ih => cases i <;> simp [ih]

theorem mem_items {x : Item} {p : List Instr} : x ∈ items p ↔ Instr.push x ∈ p := by
  induction p with
  | nil => simp
  | cons i p ih => cases i <;> simp [ih]

/-! ### guarded actions = transition function -/

theorem stepI_of_step? {fx : Bool} {s s' : State} {e : Event} (h : step? fx s e = some s') : StepI fx s e s' := by
  cases e with
  | prod =>
    simp only [step?] at h
    split at h
    · cases h
    · rename_i x p hp
      obtain ⟨hg, hs⟩ := Option.ite_none_right_eq_some.mp h
      cases hs; exact .push hp hg
    · rename_i p hp
      obtain ⟨hg, hs⟩ := Option.ite_none_right_eq_some.mp h
      cases hs; exact .waitEmpty hp hg
    · rename_i p hp; cases h; exact .close hp
  | pull w x =>
    obtain ⟨⟨hw, hm⟩, hs⟩ := Option.ite_none_right_eq_some.mp h
    cases hs; exact .pull hw hm
  | exit w =>
    obtain ⟨⟨hw, hc, hq⟩, hs⟩ := Option.ite_none_right_eq_some.mp h
    cases hs; exact .exit hw hc hq
  | buffer w =>
    simp only [step?] at h
    split at h
    · rename_i c hg; cases h; exact .buffer hg
    · cases h
  | release j =>
    obtain ⟨⟨h1, h4, hne, hall⟩, hs⟩ := Option.ite_none_right_eq_some.mp h
    by_cases hj : j = 1
    · subst hj; cases hs; exact .release1 hne hall
    · rw [if_neg hj] at hs; cases hs; exact .release (by omega) h4 hne hall
  | advance w =>
    simp only [step?] at h
    split at h
    · rename_i j hg
      by_cases hj : 1 ≤ j ∧ j < 4
      · rw [if_pos hj] at h; cases h; exact .advance hg hj.1 hj.2
      · rw [if_neg hj] at h
        obtain ⟨hj4, hs⟩ := Option.ite_none_right_eq_some.mp h
        subst hj4; cases hs; exact .advance4 hg
    · cases h

theorem step?_of_stepI {fx : Bool} {s s' : State} {e : Event} (h : StepI fx s e s') : step? fx s e = some s' := by
  cases h with
  | push hp hg => simp only [step?, hp, if_pos hg]
  | waitEmpty hp hg => simp only [step?, hp, if_pos hg]
  | close hp => simp only [step?, hp]
  | pull hw hm => exact if_pos ⟨hw, hm⟩
  | exit hw hc hq => exact if_pos ⟨hw, hc, hq⟩
  | buffer hw => simp only [step?, hw]
  | release1 hne hall => exact (if_pos ⟨Nat.le_refl 1, by omega, hne, hall⟩).trans (if_pos rfl)
  | release h2 h4 hne hall => exact (if_pos ⟨by omega, h4, hne, hall⟩).trans (if_neg (by omega))
  | advance hw h1 h4 => simp only [step?, hw]; rw [if_pos ⟨h1, h4⟩]
  | advance4 hw => simp only [step?, hw]; rfl

/-- what a worker turns into when its `pull` returns `x` -/
abbrev afterPull (x : Item) : WState := if x.isTok then .bar 1 else .working x.seq

/-! ### items not yet pulled, and tallies -/

/-- the items not yet pulled, in the order in which they are or will be pushed: producer steps leave
this list as it is, a pull erases the pulled item -/
def pend (q : List Item) (p : List Instr) : List Item := q ++ items p

theorem pend_push (q : List Item) (x : Item) (p : List Instr) : pend (q ++ [x]) p = pend q (.push x :: p) :=
  List.append_assoc ..

theorem pend_erase {q : List Item} {x : Item} (hx : x ∈ q) (p : List Instr) :
    pend (q.erase x) p = (pend q p).erase x :=
  (List.erase_append_left _ hx).symm

/-- The `f`-weight of the items not yet pulled plus the `g`-weight of the workers. Every counting
invariant below, and the potential, is such a tally; the lemmas say how a transition changes it. -/
def tally (f : Item → Nat) (g : WState → Nat) (ws : List WState) (q : List Item) (p : List Instr) : Nat :=
  sumBy g ws + sumBy f (pend q p)

section tally
variable {f : Item → Nat} {g : WState → Nat} {ws : List WState} {q : List Item} {p : List Instr}

theorem tally_push (x : Item) : tally f g ws (q ++ [x]) p = tally f g ws q (.push x :: p) := by
  rw [tally, pend_push]; rfl

theorem tally_set {w : Nat} {u : WState} (v : WState) (hw : ws[w]? = some u) :
    tally f g (ws.set w v) q p + g u = tally f g ws q p + g v := by
  rw [tally, tally, Nat.add_right_comm, sumBy_set g ws w u v hw, Nat.add_right_comm]

theorem tally_pull {w : Nat} {u : WState} {x : Item} (v : WState) (hw : ws[w]? = some u) (hx : x ∈ q) :
    tally f g (ws.set w v) (q.erase x) p + (g u + f x) = tally f g ws q p + g v := by
  rw [tally, tally, Nat.add_add_add_comm, sumBy_set g ws w u v hw, pend_erase hx,
    sumBy_erase f (pend q p) x (List.mem_append_left _ hx), Nat.add_right_comm]

theorem tally_map {a : WState} (b : WState) (hall : ∀ v ∈ ws, v = a) :
    tally f g (ws.map fun _ => b) q p + ws.length * g a = tally f g ws q p + ws.length * g b := by
  rw [tally, tally, sumBy_map_const, sumBy_const g ws a hall, Nat.add_right_comm, Nat.add_right_comm (_ * g a),
    Nat.add_comm (_ * g b)]

theorem tally_pull_eq {w : Nat} {u v : WState} {x : Item} (hw : ws[w]? = some u) (hx : x ∈ q)
    (hb : g u + f x = g v) : tally f g (ws.set w v) (q.erase x) p = tally f g ws q p :=
  Nat.add_right_cancel (hb ▸ tally_pull (f := f) (g := g) (p := p) v hw hx :)

end tally

/-! ### the potential (C05)

Why these weights: every transition must lose potential.
* the producer passes an instruction: the instruction weighs 1 more than what it leaves in the queue;
* pull: `idle` 1 + queued contig 2 > `working` 2, `idle` 1 + queued token 10 > `bar 1` 10; buffer: `working` 2 > `idle` 1;
  exit: `idle` 1 > `exited` 0;
* barrier `j` opens: every worker goes from `bar j` = 12 − 2j to `ph j` = 11 − 2j; advance: `ph j` = 11 − 2j >
  `bar (j+1)` = 10 − 2j, and `ph 4` = 3 > `idle` 1. So a token must weigh as much as the whole round it starts (10).
-/

def qpot (x : Item) : Nat := if x.isTok then 10 else 2
def ipot : Instr → Nat
  | .push x => qpot x + 1
  | _ => 1
def wpot : WState → Nat
  | .idle => 1
  | .working _ => 2
  | .bar j => 12 - 2 * j
  | .ph j => 11 - 2 * j
  | .exited => 0
def Φ (s : State) : Nat := sumBy ipot s.prog + sumBy qpot s.queue + sumBy wpot s.workers

theorem sumBy_ipot (p : List Instr) : sumBy ipot p = p.length + sumBy qpot (items p) := by
  induction p with
  | nil => rfl
  | cons i p ih =>
    cases i <;> simp only [sumBy_cons, ih, ipot, items_push, items_wait, items_close, List.length_cons] <;> omega

theorem Φ_eq (s : State) : Φ s = s.prog.length + tally qpot wpot s.workers s.queue s.prog := by
  rw [Φ, sumBy_ipot, tally, pend, sumBy_append]; omega

theorem add_lt_of_add_eq {n a b k k' : Nat} (h : a + k = b + k') (hk : k' < k) : n + a < n + b :=
  Nat.add_lt_add_left (Nat.lt_of_add_lt_add_right (h ▸ Nat.add_lt_add_left hk b)) n

theorem wpot_pull (x : Item) : wpot (afterPull x) < wpot .idle + qpot x := by
  cases h : x.isTok <;> simp [qpot, wpot, afterPull, h]

theorem step?_decreases {fx : Bool} {s s' : State} {e : Event} (h : step? fx s e = some s') : Φ s' < Φ s := by
  rw [Φ_eq, Φ_eq]
  cases stepI_of_step? h with
  | push hp hg => rw [tally_push, hp]; exact Nat.add_lt_add_right (Nat.lt_succ_self _) _
  | waitEmpty hp hg => rw [hp]; exact Nat.add_lt_add_right (Nat.lt_succ_self _) _
  | close hp => rw [hp]; exact Nat.add_lt_add_right (Nat.lt_succ_self _) _
  | pull hw hm => exact add_lt_of_add_eq (tally_pull _ hw hm.1) (wpot_pull _)
  | exit hw => exact add_lt_of_add_eq (tally_set _ hw) (by decide)
  | buffer hw => exact add_lt_of_add_eq (tally_set _ hw) (Nat.lt_succ_self 1)
  | release1 hne hall =>
    exact add_lt_of_add_eq (tally_map _ hall) (Nat.mul_lt_mul_of_pos_left (by decide) (List.length_pos_iff.mpr hne))
  | release h2 h4 hne hall =>
    exact add_lt_of_add_eq (tally_map _ hall)
      (Nat.mul_lt_mul_of_pos_left (by simp only [wpot]; omega) (List.length_pos_iff.mpr hne))
  | advance hw h1 h4 =>
    exact add_lt_of_add_eq (tally_set _ hw) (by simp only [wpot]; omega)
  | advance4 hw => exact add_lt_of_add_eq (tally_set _ hw) (by decide)

/-! ### well-formed programs and the C05 invariant -/

/-! Indicator weights for the tallies of the invariant: an item that is a token, resp. the contig with
sequence number `c`; a worker that holds a token (it waits at barrier 1), resp. holds contig `c`. -/
def tokW (x : Item) : Nat := if x.isTok then 1 else 0
def ctgW (c : Nat) (x : Item) : Nat := if x.isTok = false ∧ x.seq = c then 1 else 0
def bar1W (w : WState) : Nat := if w = .bar 1 then 1 else 0
def workW (c : Nat) (w : WState) : Nat := if w = .working c then 1 else 0

/-- Tokens come in runs of exactly `N`: scanning the body with `k` = number of tokens of the
current run seen so far, anything that is not a token push may only occur between complete runs
(`k = 0`), `close` does not occur, and the body ends between runs. -/
inductive TokRuns (N : Nat) : Nat → List Instr → Prop where
  | nil : TokRuns N 0 []
  | contig {x : Item} {rest : List Instr} : x.isTok = false → TokRuns N 0 rest → TokRuns N 0 (.push x :: rest)
  | wait {rest : List Instr} : TokRuns N 0 rest → TokRuns N 0 (.waitEmpty :: rest)
  | token {k : Nat} {x : Item} {rest : List Instr} : x.isTok = true → k + 1 < N → TokRuns N (k + 1) rest →
      TokRuns N k (.push x :: rest)
  | tokenLast {k : Nat} {x : Item} {rest : List Instr} : x.isTok = true → k + 1 = N → TokRuns N 0 rest →
      TokRuns N k (.push x :: rest)

structure WellFormedShape (N : Nat) (prog : List Instr) : Prop where
  npos : 1 ≤ N
  shape : ∃ body, prog = body ++ [.close] ∧ .close ∉ body ∧ TokRuns N 0 body

def WellFormedProgram (N cap : Nat) (prog : List Instr) : Prop :=
  WellFormedShape N prog ∧ ∀ x ∈ items prog, x.size ≤ cap

/-- `ModeA`: a round is being collected — every worker is in the pull loop (`idle`, `working`), has pulled its
token (`bar 1`), is leaving the previous round (`ph 4`) or has exited. `ModeB`: all workers are inside a round in
lockstep, released from barrier `j` (`ph j`) or already waiting at the next (`bar (j+1)`), `j = 1, 2, 3`. -/
def ModeA (ws : List WState) : Prop :=
  ∀ v ∈ ws, v = .idle ∨ (∃ c, v = .working c) ∨ v = .ph 4 ∨ v = .bar 1 ∨ v = .exited
def ModeB (ws : List WState) : Prop :=
  ∃ j, 1 ≤ j ∧ j ≤ 3 ∧ ∀ v ∈ ws, v = .ph j ∨ v = .bar (j + 1)

theorem modeA_set {ws : List WState} {w : Nat} {v : WState} (h : ModeA ws)
    (hv : v = .idle ∨ (∃ c, v = .working c) ∨ v = .ph 4 ∨ v = .bar 1 ∨ v = .exited) : ModeA (ws.set w v) :=
  fun u hu => (List.mem_or_eq_of_mem_set hu).elim (h u) fun e => e ▸ hv

/-- a worker that is idle, working or in phase 4 is only found while a round is being collected -/
theorem modeA_of_mem {ws : List WState} {w : Nat} {u : WState} (h : ModeA ws ∨ ModeB ws) (hw : ws[w]? = some u)
    (hA : u = .idle ∨ (∃ c, u = .working c) ∨ u = .ph 4) : ModeA ws := by
  refine h.resolve_right fun ⟨j, h1, h3, hall⟩ => ?_
  rcases hall u (List.mem_of_getElem? hw) with rfl | rfl <;> rcases hA with h | ⟨c, h⟩ | h <;> cases h
  omega

/-- a worker released from barrier `j < 4` is only found in the lockstep between barriers `j` and `j + 1` -/
theorem modeB_of_mem {ws : List WState} {j : Nat} (h : ModeA ws ∨ ModeB ws) (hu : .ph j ∈ ws) (h4 : j ≠ 4) :
    1 ≤ j ∧ j ≤ 3 ∧ ∀ v ∈ ws, v = .ph j ∨ v = .bar (j + 1) := by
  rcases h with h | ⟨j', h1, h3, hall⟩
  · rcases h _ hu with h | ⟨c, h⟩ | h | h | h <;> cases h
    exact absurd rfl h4
  · rcases hall _ hu with h | h <;> cases h
    exact ⟨h1, h3, hall⟩

theorem afterPull_modeA (x : Item) :
    afterPull x = .idle ∨ (∃ c, afterPull x = .working c) ∨ afterPull x = .ph 4 ∨ afterPull x = .bar 1 ∨
      afterPull x = .exited := by
  unfold afterPull; split
  · exact .inr (.inr (.inr (.inl rfl)))
  · exact .inr (.inl ⟨_, rfl⟩)

theorem afterPull_ne_exited (x : Item) : afterPull x ≠ .exited := by
  unfold afterPull; split <;> nofun

theorem modeB_weights {ws : List WState} (h : ModeB ws) (c : Nat) : sumBy bar1W ws = 0 ∧ sumBy (workW c) ws = 0 := by
  obtain ⟨j, h1, h3, hall⟩ := h
  constructor <;> refine sumBy_eq_zero_iff.mpr fun v hv => ?_
  · rcases hall v hv with rfl | rfl
    · rfl
    · exact if_neg fun h => by cases h; omega
  · rcases hall v hv with rfl | rfl <;> rfl

theorem bar1W_buffer (c : Nat) : bar1W (.working c) = bar1W .idle := rfl

theorem bar1W_advance {j : Nat} (h : 1 ≤ j) : bar1W (.ph j) = bar1W (.bar (j + 1)) := by
  have : j ≠ 0 := by omega
  simp [bar1W, this]

theorem bar1W_release {j : Nat} (h : 2 ≤ j) : bar1W (.bar j) = bar1W (.ph j) := by
  have : j ≠ 1 := by omega
  simp [bar1W, this]

theorem tokW_pull (x : Item) : bar1W .idle + tokW x = bar1W (afterPull x) := by
  cases h : x.isTok <;> simp [bar1W, tokW, afterPull, h]

theorem ctgW_pull (c : Nat) (x : Item) : workW c .idle + ctgW c x = workW c (afterPull x) := by
  cases h : x.isTok <;> simp [workW, ctgW, afterPull, h]

theorem workW_working (c d : Nat) : workW d (.working c) = [c].count d := by
  by_cases h : c = d <;> simp [workW, h]

/-- an account `B + X` when `k` moves from the tally `X` to `B` (`hx` as `tally_set` gives it) -/
theorem acc_move {B X X' k T : Nat} (h : B + X = T) (hx : X' + k = X) : B + k + X' = T := by
  rw [← h, ← hx, Nat.add_assoc, Nat.add_comm k]

/-- the token account when barrier 1 opens: `N` workers leave `bar 1`, one more batch is closed (`hx` is
`tally_map` for `bar1W`, whose values at `bar 1` and `ph 1` are 1 and 0) -/
theorem acc_round {N nb X X' T : Nat} (h : N * nb + X = T) (hx : X' + N * 1 = X + N * 0) :
    N * (nb + 1) + X' = T := by
  rw [Nat.mul_zero, Nat.add_zero] at hx
  rw [Nat.mul_add, ← h, ← hx, Nat.add_assoc, Nat.add_comm X']

theorem tally_init {f : Item → Nat} {g : WState → Nat} (hg : g .idle = 0) (N : Nat) (p : List Instr) :
    tally f g (List.replicate N .idle) [] p = sumBy f (items p) := by
  rw [tally, sumBy_replicate, hg, Nat.mul_zero, Nat.zero_add]; rfl

/-- The invariant of C05. `sizes` is what the push guard before the fix needs in order not to block (the
repaired guard, `fx = true`, admits any item into an empty queue); `closedProg`/`openProg` say that `close`
is the last instruction, so that an open queue still has a producer step and a closed one no pending
push; `exitedClosed` and `shape` say where the workers can be; `tokAcc` and `ctgAcc` account for every
token (`N` per closed batch) and every contig (in a batch, buffered, held, or not yet pulled). -/
structure Inv5 (fx : Bool) (prog0 : List Instr) (N : Nat) (s : State) : Prop where
  len : s.workers.length = N
  sizes : fx = false → ∀ x ∈ items s.prog, x.size ≤ s.cap
  closedProg : s.closed = true → s.prog = []
  openProg : s.closed = false → ∃ body, s.prog = body ++ [.close] ∧ .close ∉ body
  exitedClosed : .exited ∈ s.workers → s.closed = true ∧ s.queue = []
  shape : ModeA s.workers ∨ ModeB s.workers
  tokAcc : N * s.batches.length + tally tokW bar1W s.workers s.queue s.prog = sumBy tokW (items prog0)
  ctgAcc : ∀ c, s.batches.flatten.count c + s.buffered.count c + tally (ctgW c) (workW c) s.workers s.queue s.prog
             = sumBy (ctgW c) (items prog0)

theorem inv5_init {fx : Bool} {prog : List Instr} {N cap : Nat} (hwf : WellFormedShape N prog)
    (hsz : fx = false → ∀ x ∈ items prog, x.size ≤ cap) : Inv5 fx prog N (init prog cap N) where
  len := List.length_replicate
  sizes := hsz
  closedProg := nofun
  openProg := fun _ => hwf.shape.imp fun _ h => ⟨h.1, h.2.1⟩
  exitedClosed := fun h => nomatch (List.mem_replicate.mp h).2
  shape := .inl fun _ hv => .inl (List.mem_replicate.mp hv).2
  tokAcc := (Nat.zero_add _).trans (tally_init (g := bar1W) rfl N prog)
  ctgAcc := fun c => (Nat.zero_add _).trans (tally_init (g := workW c) rfl N prog)

theorem eq_of_mem_map_const {α β} {l : List α} {a b : β} (h : a ∈ l.map fun _ => b) : a = b := by
  obtain ⟨_, _, h⟩ := List.mem_map.mp h; exact h.symm

theorem exited_of_mem_set {ws : List WState} {w : Nat} {v : WState} (h : .exited ∈ ws.set w v) (hv : v ≠ .exited) :
    .exited ∈ ws :=
  (List.mem_or_eq_of_mem_set h).resolve_right (Ne.symm hv)

/-- The invariant reads the workers through their number, whether one has exited, the mode, the number at
barrier 1 and the contigs being worked on. -/
theorem Inv5.workers {fx : Bool} {prog0 : List Instr} {N : Nat} {s : State} {ws : List WState}
    (hi : Inv5 fx prog0 N s) (hlen : ws.length = s.workers.length)
    (hex : .exited ∈ ws → s.closed = true ∧ s.queue = []) (hsh : ModeA ws ∨ ModeB ws)
    (hb : sumBy bar1W ws = sumBy bar1W s.workers) (hk : ∀ c, sumBy (workW c) ws = sumBy (workW c) s.workers) :
    Inv5 fx prog0 N { s with workers := ws } :=
  { hi with
    len := hlen.trans hi.len
    exitedClosed := hex
    shape := hsh
    tokAcc := by rw [tally, hb]; exact hi.tokAcc
    ctgAcc := fun c => by rw [tally, hk]; exact hi.ctgAcc c }

/-- The producer completes instruction `i`: its item, if any, joins the queue, `close` closes it. The
items not yet pulled remain the same list; the queue was open, so no worker has exited. -/
theorem Inv5.producer {fx : Bool} {prog0 : List Instr} {N : Nat} {s : State} {i : Instr} {p : List Instr}
    {q : List Item} {c : Bool} (hi : Inv5 fx prog0 N s) (hp : s.prog = i :: p) (hq : q = s.queue ++ items [i])
    (hc : c = (i == .close || s.closed)) : Inv5 fx prog0 N { s with prog := p, queue := q, closed := c } := by
  have hcl : s.closed = false := by
    cases h : s.closed with
    | false => rfl
    | true => cases (hi.closedProg h).symm.trans hp
  have hit : items s.prog = items [i] ++ items p := by rw [hp]; cases i <;> rfl
  have hpend : pend q p = pend s.queue s.prog := by rw [hq, pend, pend, hit, List.append_assoc]
  have hprog : (c = true → p = []) ∧ (c = false → ∃ body, p = body ++ [.close] ∧ .close ∉ body) := by
    obtain ⟨body, hb, hnc⟩ := hi.openProg hcl
    rw [hp] at hb
    cases body with
    | nil => cases hb; exact ⟨fun _ => rfl, fun h => (nomatch hc.symm.trans h)⟩
    | cons j b =>
      cases hb
      have hne : (i == .close) = false := beq_false_of_ne fun h => hnc (h ▸ List.mem_cons_self)
      rw [hcl, hne] at hc
      exact ⟨fun h => (nomatch hc.symm.trans h), fun _ => ⟨b, rfl, fun h => hnc (List.mem_cons_of_mem _ h)⟩⟩
  exact { hi with
    sizes := fun hf y hy => hi.sizes hf y (hit ▸ List.mem_append_right _ hy)
    closedProg := hprog.1
    openProg := hprog.2
    exitedClosed := fun hm => nomatch hcl ▸ (hi.exitedClosed hm).1
    tokAcc := by rw [tally, hpend]; exact hi.tokAcc
    ctgAcc := fun c => by rw [tally, hpend]; exact hi.ctgAcc c }

theorem inv5_step {fx : Bool} {prog0 : List Instr} {N : Nat} {s s' : State} {e : Event}
    (hi : Inv5 fx prog0 N s) (h : StepI fx s e s') : Inv5 fx prog0 N s' := by
  cases h with
  | push hp => exact hi.producer hp rfl rfl
  | waitEmpty hp => exact hi.producer hp (List.append_nil _).symm rfl
  | close hp => exact hi.producer hp (List.append_nil _).symm rfl
  | @pull w x hw hm =>
    exact { hi with
      len := List.length_set.trans hi.len
      exitedClosed := fun h =>
        absurd (hi.exitedClosed (exited_of_mem_set h (afterPull_ne_exited x))).2 (List.ne_nil_of_mem hm.1)
      shape := .inl (modeA_set (modeA_of_mem hi.shape hw (.inl rfl)) (afterPull_modeA x))
      tokAcc := by rw [tally_pull_eq hw hm.1 (tokW_pull x)]; exact hi.tokAcc
      ctgAcc := fun c => by rw [tally_pull_eq hw hm.1 (ctgW_pull c x)]; exact hi.ctgAcc c }
  | exit hw hc hq =>
    exact hi.workers List.length_set (fun _ => ⟨hc, hq⟩)
      (.inl (modeA_set (modeA_of_mem hi.shape hw (.inl rfl)) (.inr (.inr (.inr (.inr rfl))))))
      (sumBy_set_eq hw rfl) fun _ => sumBy_set_eq hw rfl
  | @buffer w c hw =>
    exact { hi with
      len := List.length_set.trans hi.len
      exitedClosed := fun h => hi.exitedClosed (exited_of_mem_set h nofun)
      shape := .inl (modeA_set (modeA_of_mem hi.shape hw (.inr (.inl ⟨c, rfl⟩))) (.inl rfl))
      tokAcc := by rw [tally, sumBy_set_eq hw (bar1W_buffer c)]; exact hi.tokAcc
      ctgAcc := fun d => by
        rw [List.count_append, ← workW_working, ← Nat.add_assoc]
        exact acc_move (hi.ctgAcc d) (tally_set .idle hw) }
  | release1 hne hall =>
    exact { hi with
      len := (List.length_map _).trans hi.len
      exitedClosed := fun h => nomatch eq_of_mem_map_const h
      shape := .inr ⟨1, Nat.le_refl 1, by decide, fun v hv => .inl (eq_of_mem_map_const hv)⟩
      tokAcc := by rw [List.length_append]; exact acc_round hi.tokAcc (hi.len ▸ tally_map _ hall)
      ctgAcc := fun c => by
        rw [List.flatten_concat, List.count_append, tally,
          sumBy_map_eq hall (show workW c (.bar 1) = workW c (.ph 1) from rfl)]
        exact hi.ctgAcc c }
  | @release j h2 h4 hne hall =>
    refine hi.workers (List.length_map _) (fun h => nomatch eq_of_mem_map_const h) ?_
      (sumBy_map_eq hall (bar1W_release h2)) fun _ => sumBy_map_eq hall rfl
    by_cases hj : j = 4
    · exact .inl fun v hv => .inr (.inr (.inl (hj ▸ eq_of_mem_map_const hv)))
    · exact .inr ⟨j, by omega, by omega, fun v hv => .inl (eq_of_mem_map_const hv)⟩
  | advance hw h1 h4 =>
    obtain ⟨_, h3, hall⟩ := modeB_of_mem hi.shape (List.mem_of_getElem? hw) (by omega)
    exact hi.workers List.length_set (fun h => hi.exitedClosed (exited_of_mem_set h nofun))
      (.inr ⟨_, h1, h3, fun v hv => (List.mem_or_eq_of_mem_set hv).elim (hall v) .inr⟩)
      (sumBy_set_eq hw (bar1W_advance h1)) fun _ => sumBy_set_eq hw rfl
  | advance4 hw =>
    exact hi.workers List.length_set (fun h => hi.exitedClosed (exited_of_mem_set h nofun))
      (.inl (modeA_set (modeA_of_mem hi.shape hw (.inr (.inr rfl))) (.inl rfl)))
      (sumBy_set_eq hw rfl) fun _ => sumBy_set_eq hw rfl

/-! ### the task order -/

theorem taskLt_irrefl (a : Item) : ¬ taskLt a a := by unfold taskLt; omega
theorem taskLt_trans {a b c : Item} (h1 : taskLt a b) (h2 : taskLt b c) : taskLt a c := by
  rcases h1 with h1 | ⟨e1, h1⟩ <;> rcases h2 with h2 | ⟨e2, h2⟩
  · exact .inl (Int.lt_trans h1 h2)
  · exact .inl (e2 ▸ h1)
  · exact .inl (e1 ▸ h2)
  · refine .inr ⟨e1.trans e2, ?_⟩
    rcases h1 with h1 | ⟨f1, h1⟩ <;> rcases h2 with h2 | ⟨f2, h2⟩
    · exact .inl (Nat.lt_trans h1 h2)
    · exact .inl (f2 ▸ h1)
    · exact .inl (f1 ▸ h2)
    · exact .inr ⟨f1.trans f2, Nat.lt_trans h2 h1⟩
theorem taskLt_asymm {a b : Item} (h1 : taskLt a b) : ¬ taskLt b a := by
  unfold taskLt at *; omega

theorem exists_isMax (q : List Item) (h : q ≠ []) : ∃ x, isMax q x := by
  induction q with
  | nil => exact absurd rfl h
  | cons a q ih =>
    by_cases hq : q = []
    · subst hq
      exact ⟨a, List.mem_singleton_self a, fun y hy => List.mem_singleton.mp hy ▸ taskLt_irrefl a⟩
    · obtain ⟨m, hm, hmax⟩ := ih hq
      by_cases hma : taskLt m a
      · exact ⟨a, List.mem_cons_self, List.forall_mem_cons.mpr
          ⟨taskLt_irrefl a, fun y hy hay => hmax y hy (taskLt_trans hma hay)⟩⟩
      · exact ⟨m, List.mem_cons_of_mem _ hm, List.forall_mem_cons.mpr ⟨hma, hmax⟩⟩

/-! ### weights as counts -/

theorem sumBy_tokW (l : List Item) : sumBy tokW l = tokCount l :=
  (sumBy_indicator (fun x : Item => x.isTok = true) l).trans (by simp [tokCount])

theorem sumBy_ctgW (c : Nat) (l : List Item) : sumBy (ctgW c) l = (contigSeqs l).count c := by
  rw [contigSeqs, List.count_eq_countP, List.countP_map, List.countP_filter]
  exact (sumBy_indicator (fun x : Item => x.isTok = false ∧ x.seq = c) l).trans
    (List.countP_congr fun x _ => by simp [and_comm])

theorem sumBy_bar1W (l : List WState) : sumBy bar1W l = l.count (.bar 1) :=
  sumBy_indicator (fun w : WState => w = .bar 1) l

theorem wf_dvd {N : Nat} {prog : List Instr} (hwf : WellFormedShape N prog) : N ∣ sumBy tokW (items prog) := by
  obtain ⟨body, rfl, _, hr⟩ := hwf.shape
  have key : ∀ {k p}, TokRuns N k p → N ∣ k + sumBy tokW (items p) := by
    intro k p h
    induction h with
    | nil => exact Nat.dvd_zero N
    | contig hx _ ih => simpa [tokW, hx] using ih
    | wait _ ih => exact ih
    | @token k x rest hx _ _ ih =>
      rwa [items_push, sumBy_cons, tokW, if_pos hx, ← Nat.add_assoc]
    | @tokenLast k x rest hx hk _ ih =>
      rw [items_push, sumBy_cons, tokW, if_pos hx, ← Nat.add_assoc, hk]
      exact (Nat.dvd_add_right (Nat.dvd_refl N)).mpr (by simpa using ih)
  simpa [items_append] using key hr

/-! ### progress, reachability and final states (C05) -/

/-- what `replay` accepts is an execution -/
theorem replay_reachable {fx : Bool} {prog : List Instr} {cap N i : Nat} {s s' : State} {es : List Event}
    (hr : Reachable fx prog cap N s) (h : (replay fx s es i).toOption = some s') : Reachable fx prog cap N s' := by
  induction es generalizing s i with
  | nil => cases h; exact hr
  | cons e es ih =>
    rw [replay] at h
    split at h
    · rename_i t hs; exact ih (.step hr ⟨e, hs⟩) h
    · cases h

theorem inv5_reachable {fx : Bool} {prog : List Instr} {N cap : Nat} {s : State}
    (hwf : WellFormedShape N prog) (hsz : fx = false → ∀ x ∈ items prog, x.size ≤ cap)
    (hr : Reachable fx prog cap N s) : Inv5 fx prog N s := by
  induction hr with
  | init => exact inv5_init hwf hsz
  | step _ hs ih => obtain ⟨e, he⟩ := hs; exact inv5_step ih (stepI_of_step? he)

/-- in a final state nothing is pending and no worker holds anything -/
theorem tally_final {f : Item → Nat} {g : WState → Nat} {s : State} (hf : Final s) (hg : g .exited = 0) :
    tally f g s.workers s.queue s.prog = 0 := by
  obtain ⟨hp, hq, hw⟩ := hf
  rw [hp, hq, tally, sumBy_const g _ _ hw, hg]; rfl

/-- No deadlock, for either push guard: with the guard before the fix (`fx = false`) every item must
fit the capacity. -/
theorem reachable_progress {fx : Bool} {prog : List Instr} {N cap : Nat} {s : State} (hwf : WellFormedShape N prog)
    (hr : Reachable fx prog cap N s) (hsz : fx = false → ∀ x ∈ items prog, x.size ≤ cap) (hnf : ¬ Final s) :
    ∃ s', Step fx s s' := by
  obtain ⟨hlen, hsz, hcp, hop, hex, hsh, htok, hctg⟩ := inv5_reachable hwf hsz hr
  have hne : s.workers ≠ [] := List.ne_nil_of_length_pos (hlen ▸ hwf.npos)
  have step : ∀ {e s'}, StepI fx s e s' → ∃ s', Step fx s s' := fun h => ⟨_, _, step?_of_stepI h⟩
  by_cases h1 : ∃ c, WState.working c ∈ s.workers
  · obtain ⟨c, hc⟩ := h1
    obtain ⟨w, hw⟩ := List.mem_iff_getElem?.mp hc
    exact step (.buffer hw)
  by_cases h2 : ∃ j, WState.ph j ∈ s.workers
  · obtain ⟨j, hj⟩ := h2
    obtain ⟨w, hw⟩ := List.mem_iff_getElem?.mp hj
    by_cases h4 : j = 4
    · exact step (.advance4 (h4 ▸ hw))
    · obtain ⟨h1, h3, _⟩ := modeB_of_mem hsh hj h4
      exact step (.advance hw h1 (Nat.lt_succ_of_le h3))
  by_cases h3 : WState.idle ∈ s.workers
  · obtain ⟨w, hw⟩ := List.mem_iff_getElem?.mp h3
    by_cases hq : s.queue = []
    · cases hcl : s.closed with
      | true => exact step (.exit hw hcl hq)
      | false =>
        obtain ⟨body, hb, hc⟩ := hop hcl
        cases hp : s.prog with
        | nil => cases body <;> cases hp ▸ hb
        | cons i p =>
          cases i with
          | push x =>
            refine step (.push hp ⟨hcl, ?_⟩)
            cases hfx : fx with
            | true => exact .inr ⟨rfl, hq⟩
            | false =>
              refine .inl ?_
              rw [State.cur, hq, List.map_nil, List.sum_nil, Nat.zero_add]
              exact hsz hfx x (hp ▸ List.mem_cons_self)
          | waitEmpty => exact step (.waitEmpty hp hq)
          | close => exact step (.close hp)
    · obtain ⟨x, hx⟩ := exists_isMax s.queue hq
      exact step (.pull hw hx)
  -- every worker waits at a barrier or has exited
  rcases hsh with hA | ⟨j, hj1, hj3, hall⟩
  · have hall : ∀ v ∈ s.workers, v = .bar 1 ∨ v = .exited := by
      intro v hv
      rcases hA v hv with rfl | ⟨c, rfl⟩ | rfl | h | h
      · exact absurd hv h3
      · exact absurd ⟨c, hv⟩ h1
      · exact absurd ⟨4, hv⟩ h2
      · exact .inl h
      · exact .inr h
    by_cases h4 : WState.exited ∈ s.workers
    · -- then the queue is closed and empty, and a multiple of `N` below `N` workers wait at barrier 1
      obtain ⟨hcl, hq⟩ := hex h4
      have hp := hcp hcl
      rw [hq, hp, tally, sumBy_bar1W] at htok
      have hd : N ∣ s.workers.count (.bar 1) :=
        (Nat.dvd_add_right (Nat.dvd_mul_right N _)).mp (htok ▸ wf_dvd hwf)
      have hlt : s.workers.count (.bar 1) < N :=
        hlen ▸ Nat.lt_of_le_of_ne List.count_le_length fun h => nomatch List.count_eq_length.mp h _ h4
      have hz := List.count_eq_zero.mp (Nat.eq_zero_of_dvd_of_lt hd hlt)
      exact absurd ⟨hp, hq, fun v hv => (hall v hv).resolve_left fun h => hz (h ▸ hv)⟩ hnf
    · exact step (.release1 hne fun v hv => (hall v hv).resolve_right fun h => h4 (h ▸ hv))
  · exact step (.release (j := j + 1) (Nat.succ_le_succ hj1) (Nat.succ_le_succ hj3) hne
      fun v hv => (hall v hv).resolve_left fun h => h2 ⟨j, h ▸ hv⟩)

theorem reachable_final_complete {fx : Bool} {prog : List Instr} {N cap : Nat} {s : State}
    (hwf : WellFormedShape N prog) (hr : Reachable fx prog cap N s)
    (hsz : fx = false → ∀ x ∈ items prog, x.size ≤ cap) (hf : Final s) :
    (s.batches.flatten ++ s.buffered).Perm (contigSeqs (items prog)) ∧ N * s.batches.length = tokCount (items prog) := by
  have hi := inv5_reachable hwf hsz hr
  constructor
  · rw [List.perm_iff_count]
    intro c
    rw [List.count_append, ← sumBy_ctgW, ← hi.ctgAcc c, tally_final hf rfl]; rfl
  · rw [← sumBy_tokW, ← hi.tokAcc, tally_final hf rfl]; rfl

/-! ### PrioSep and round annotations -/

/-- every item pushed after `x` and before the next `waitEmpty` that belongs to a later round is
strictly below `x` in the task order -/
def sepFrom (x : Item) : List Instr → Prop
  | [] => True
  | .waitEmpty :: _ => True
  | .push y :: r => (x.rd < y.rd → taskLt y x) ∧ sepFrom x r
  | .close :: r => sepFrom x r

/-- For items `x` pushed before `y` with `rd x < rd y`: `taskLt y x`, or a `waitEmpty` lies between
them in the program. -/
def PrioSep : List Instr → Prop
  | [] => True
  | .push x :: r => sepFrom x r ∧ PrioSep r
  | _ :: r => PrioSep r

instance sepFromDec (x : Item) : (p : List Instr) → Decidable (sepFrom x p)
  | [] => isTrue trivial
  | .waitEmpty :: _ => isTrue trivial
  | .push y :: r => by
      unfold sepFrom
      have := sepFromDec x r
      exact inferInstance
  | .close :: r => by unfold sepFrom; exact sepFromDec x r

instance prioSepDec : (p : List Instr) → Decidable (PrioSep p)
  | [] => isTrue trivial
  | .push x :: r => by
      unfold PrioSep
      have := prioSepDec r
      exact inferInstance
  | .waitEmpty :: r => by unfold PrioSep; exact prioSepDec r
  | .close :: r => by unfold PrioSep; exact prioSepDec r

/-! the same indicators per round: contig `c` of round `r` (round index `2r`), a token of round `r` (`2r + 1`) -/
def ctgRW (r c : Nat) (x : Item) : Nat := if x.rd = 2 * r ∧ x.seq = c then 1 else 0
def tokRW (r : Nat) (x : Item) : Nat := if x.rd = 2 * r + 1 then 1 else 0

/-- the ghost round indices are consistent: non-decreasing along the push sequence, even for
contigs and odd for tokens, exactly `N` tokens in each round `< rounds prog` and nothing beyond -/
structure RdOk (N : Nat) (prog : List Instr) : Prop where
  sorted : (items prog).Pairwise (fun a b => a.rd ≤ b.rd)
  parity : ∀ x ∈ items prog, (x.isTok = true ↔ x.rd % 2 = 1)
  runs : ∀ r, sumBy (tokRW r) (items prog) = if r < rounds prog then N else 0
  bound : ∀ x ∈ items prog, x.rd < 2 * rounds prog

theorem sepFrom_tail {x : Item} {i : Instr} {p : List Instr} (hi : i ≠ .waitEmpty) (h : sepFrom x (i :: p)) : sepFrom x p := by
  cases i with
  | push y => exact h.2
  | waitEmpty => exact absurd rfl hi
  | close => exact h

theorem prioSep_tail {i : Instr} {p : List Instr} (h : PrioSep (i :: p)) : PrioSep p := by
  cases i with
  | push y => exact h.2
  | waitEmpty => exact h
  | close => exact h

theorem ctgRW_of_ne {r : Nat} {x : Item} (h : x.rd ≠ 2 * r) (c : Nat) : ctgRW r c x = 0 :=
  if_neg fun h' => h h'.1

theorem tokRW_of_ne {r : Nat} {x : Item} (h : x.rd ≠ 2 * r + 1) : tokRW r x = 0 := if_neg h

theorem ne_of_tokRW_eq_zero {r : Nat} {x : Item} (h : tokRW r x = 0) : x.rd ≠ 2 * r + 1 := fun e => by
  rw [tokRW, if_pos e] at h; cases h

theorem sumBy_tokRW (r : Nat) (l : List Item) : sumBy (tokRW r) l = l.countP (fun y => y.rd == 2 * r + 1) :=
  (sumBy_indicator (fun y : Item => y.rd = 2 * r + 1) l).trans (List.countP_congr fun y _ => by simp)

/-- `x` is a contig or a token of round `r` -/
def InRound (r : Nat) (x : Item) : Prop := x.isTok = false ∧ x.rd = 2 * r ∨ x.isTok = true ∧ x.rd = 2 * r + 1

theorem ctgRW_pull {r : Nat} {x : Item} (h : InRound r x) (c : Nat) :
    workW c .idle + ctgRW r c x = workW c (afterPull x) := by
  rcases h with ⟨ht, hr⟩ | ⟨ht, hr⟩
  · simp [workW, ctgRW, afterPull, ht, hr]
  · rw [ctgRW_of_ne (by omega)]; simp [workW, afterPull, ht]

theorem tokRW_pull {r : Nat} {x : Item} (h : InRound r x) : bar1W .idle + tokRW r x = bar1W (afterPull x) := by
  rcases h with ⟨ht, hr⟩ | ⟨ht, hr⟩
  · rw [tokRW_of_ne (by omega)]; simp [bar1W, afterPull, ht]
  · simp [bar1W, tokRW, afterPull, ht, hr]

/-! ### what the task order knows about the queue and the rest of the program -/

/-- Round indices against the task order, for the queue `q` and the remaining program `p`: what makes a
greatest element of the queue one of least round index (`Ordered.min_rd`). -/
structure Ordered (q : List Item) (p : List Instr) : Prop where
  progSorted : (items p).Pairwise (fun a b => a.rd ≤ b.rd)
  qBeforeProg : ∀ a ∈ q, ∀ b ∈ items p, a.rd ≤ b.rd
  sepQ : ∀ x ∈ q, sepFrom x p
  sepP : PrioSep p
  qOrd : ∀ x ∈ q, ∀ y ∈ q, x.rd < y.rd → taskLt y x

theorem Ordered.push {q : List Item} {x : Item} {p : List Instr} (h : Ordered q (.push x :: p)) :
    Ordered (q ++ [x]) p := by
  obtain ⟨hx, hs⟩ := List.pairwise_cons.mp h.progSorted
  have hmem : ∀ {a}, a ∈ q ++ [x] → a ∈ q ∨ a = x := fun ha =>
    (List.mem_append.mp ha).imp_right List.mem_singleton.mp
  refine ⟨hs, fun a ha b hb => ?_, fun a ha => ?_, h.sepP.2, fun a ha b hb hab => ?_⟩
  · rcases hmem ha with ha' | rfl
    · exact h.qBeforeProg a ha' b (List.mem_cons_of_mem _ hb)
    · exact hx b hb
  · rcases hmem ha with ha' | rfl
    · exact (h.sepQ a ha').2
    · exact h.sepP.1
  · rcases hmem ha with ha' | rfl <;> rcases hmem hb with hb' | rfl
    · exact h.qOrd a ha' b hb' hab
    · exact (h.sepQ a ha').1 hab
    · exact absurd (h.qBeforeProg b hb' a List.mem_cons_self) (Nat.not_le_of_lt hab)
    · exact absurd hab (Nat.lt_irrefl _)

/-- the producer passes an instruction that pushes nothing (`waitEmpty` only with an empty queue) -/
theorem Ordered.tail {q : List Item} {i : Instr} {p : List Instr} (h : Ordered q (i :: p))
    (hi : items [i] = []) (hq : i = .waitEmpty → q = []) : Ordered q p := by
  have hit : items (i :: p) = items p := by
    cases i with
    | push x => cases hi
    | waitEmpty => rfl
    | close => rfl
  refine ⟨hit ▸ h.progSorted, hit ▸ h.qBeforeProg, fun x hx => sepFrom_tail (fun e => ?_) (h.sepQ x hx),
    prioSep_tail h.sepP, h.qOrd⟩
  rw [hq e] at hx; cases hx

theorem Ordered.mono {q q' : List Item} {p : List Instr} (h : Ordered q p) (hs : ∀ y ∈ q', y ∈ q) :
    Ordered q' p :=
  ⟨h.progSorted, fun a ha => h.qBeforeProg a (hs a ha), fun x hx => h.sepQ x (hs x hx), h.sepP,
    fun a ha b hb => h.qOrd a (hs a ha) b (hs b hb)⟩

/-- a greatest element of the queue has the least round index of everything not yet pulled -/
theorem Ordered.min_rd {q : List Item} {p : List Instr} {x : Item} (h : Ordered q p) (hm : isMax q x) :
    ∀ y ∈ pend q p, x.rd ≤ y.rd := by
  intro y hy
  rcases List.mem_append.mp hy with hy | hy
  · exact Nat.le_of_not_lt fun hlt => hm.2 y hy (h.qOrd y hy x hm.1 hlt)
  · exact h.qBeforeProg x hm.1 y hy

/-! ### the C04 invariant -/

/-- The invariant, over the components of a state that it reads (program `p`, queue `q`, workers,
raw buffer, closed batches). With `r` batches closed: nothing of a round before `r` is still to be
pulled, and nothing of round `r` but tokens once a token of round `r` has been pulled; the contigs
and tokens of round `r` are buffered, held by a worker or still to be pulled; everything of a later
round is still to be pulled; the closed batches are the contigs of the rounds before `r`. `future` is stated
for every weight `f` that vanishes up to round `r` so that, when barrier 1 opens, it yields `accE` and `accT`
of round `r + 1` (`f := ctgRW (r+1) c`, `tokRW (r+1)`). -/
structure Inv4 (prog0 : List Instr) (p : List Instr) (q : List Item) (ws : List WState)
    (buf : List Nat) (bat : List (List Nat)) : Prop where
  sub : ∀ x ∈ pend q p, x ∈ items prog0
  ord : Ordered q p
  low : ∀ x ∈ pend q p, 2 * bat.length ≤ x.rd
  lowTok : 0 < sumBy bar1W ws → ∀ x ∈ pend q p, 2 * bat.length + 1 ≤ x.rd
  accE : ∀ c, buf.count c + tally (ctgRW bat.length c) (workW c) ws q p = sumBy (ctgRW bat.length c) (items prog0)
  accT : tally (tokRW bat.length) bar1W ws q p = sumBy (tokRW bat.length) (items prog0)
  future : ∀ f : Item → Nat, (∀ x, x.rd < 2 * bat.length + 2 → f x = 0) → sumBy f (pend q p) = sumBy f (items prog0)
  done : ∀ i (h : i < bat.length), ∀ c, (bat[i]).count c = sumBy (ctgRW i c) (items prog0)
  rle : bat.length ≤ rounds prog0

section Inv4
variable {prog0 : List Instr} {N : Nat} {p p' : List Instr} {q q' : List Item} {ws ws' : List WState}
  {buf : List Nat} {bat : List (List Nat)}

/-- The invariant reads the workers only through the number waiting at barrier 1 and the contigs
being worked on, and the queue and the program only through `pend` and `Ordered`. -/
theorem Inv4.congr (h4 : Inv4 prog0 p q ws buf bat) (hb : sumBy bar1W ws' = sumBy bar1W ws)
    (hw : ∀ c, sumBy (workW c) ws' = sumBy (workW c) ws) (hp : pend q' p' = pend q p) (hord : Ordered q' p') :
    Inv4 prog0 p' q' ws' buf bat :=
  { h4 with
    sub := hp ▸ h4.sub
    ord := hord
    low := hp ▸ h4.low
    lowTok := by rw [hb, hp]; exact h4.lowTok
    accE := fun c => by rw [tally, hw, hp]; exact h4.accE c
    accT := by rw [tally, hb, hp]; exact h4.accT
    future := hp ▸ h4.future }

/-- a pulled item belongs to the round being collected, and nothing of an earlier round is left -/
theorem Inv4.pull_rd (h4 : Inv4 prog0 p q ws buf bat) (hok : RdOk N prog0) (hlen : ws.length = N)
    {w : Nat} {x : Item} (hw : ws[w]? = some .idle) (hm : isMax q x) :
    (∀ y ∈ pend q p, x.rd ≤ y.rd) ∧ InRound bat.length x := by
  have hmin := h4.ord.min_rd hm
  have hx : x ∈ pend q p := List.mem_append_left _ hm.1
  have hx0 := h4.sub x hx
  have hhi : x.rd ≤ 2 * bat.length + 1 := by
    -- otherwise all `N` tokens of the round have been pulled, and every worker waits at barrier 1
    refine Nat.le_of_not_lt fun hgt => ?_
    have hz : sumBy (tokRW bat.length) (pend q p) = 0 :=
      sumBy_eq_zero_iff.mpr fun y hy => tokRW_of_ne (Nat.ne_of_gt (Nat.lt_of_lt_of_le hgt (hmin y hy)))
    have hT := h4.accT
    have hb := hok.bound x hx0
    rw [tally, hz, hok.runs, if_pos (by omega), Nat.add_zero, sumBy_bar1W, ← hlen] at hT
    exact nomatch List.count_eq_length.mp hT _ (List.mem_of_getElem? hw)
  refine ⟨hmin, ?_⟩
  have hpar := hok.parity x hx0
  rcases Nat.eq_or_lt_of_le (h4.low x hx) with h | h
  · refine .inl ⟨?_, h.symm⟩
    cases ht : x.isTok
    · rfl
    · have := hpar.mp ht; rw [← h, Nat.mul_mod_right] at this; cases this
  · have hr := Nat.le_antisymm hhi h
    exact .inr ⟨hpar.mpr (hr ▸ Nat.mul_add_mod ..), hr⟩

theorem Inv4.pull (h4 : Inv4 prog0 p q ws buf bat) (hok : RdOk N prog0) (hlen : ws.length = N)
    {w : Nat} {x : Item} (hw : ws[w]? = some .idle) (hm : isMax q x) :
    Inv4 prog0 p (q.erase x) (ws.set w (afterPull x)) buf bat := by
  obtain ⟨hmin, hrd⟩ := h4.pull_rd hok hlen hw hm
  have hsup : ∀ y ∈ pend (q.erase x) p, y ∈ pend q p := fun y hy =>
    List.mem_of_mem_erase (pend_erase hm.1 p ▸ hy)
  exact { h4 with
    sub := fun y hy => h4.sub y (hsup y hy)
    ord := h4.ord.mono fun y => List.mem_of_mem_erase
    low := fun y hy => h4.low y (hsup y hy)
    lowTok := by
      rcases hrd with ⟨ht, hr⟩ | ⟨ht, hr⟩
      · have e : sumBy bar1W (ws.set w (afterPull x)) = sumBy bar1W ws :=
          sumBy_set_eq hw (by simp [afterPull, ht, bar1W])
        exact fun hb y hy => h4.lowTok (e ▸ hb) y (hsup y hy)
      · exact fun _ y hy => hr ▸ hmin y (hsup y hy)
    accE := fun c => by rw [tally_pull_eq hw hm.1 (ctgRW_pull hrd c)]; exact h4.accE c
    accT := by rw [tally_pull_eq hw hm.1 (tokRW_pull hrd)]; exact h4.accT
    future := fun f hf => by
      have hfx : f x = 0 := hf x (by rcases hrd with ⟨_, hr⟩ | ⟨_, hr⟩ <;> omega)
      rw [pend_erase hm.1, ← h4.future f hf, ← sumBy_erase f (pend q p) x (List.mem_append_left _ hm.1), hfx]
      rfl }

theorem Inv4.buffer (h4 : Inv4 prog0 p q ws buf bat) {w c : Nat} (hw : ws[w]? = some (.working c)) :
    Inv4 prog0 p q (ws.set w .idle) (buf ++ [c]) bat :=
  { h4 with
    lowTok := by rw [sumBy_set_eq hw (bar1W_buffer c)]; exact h4.lowTok
    accE := fun d => by
      rw [List.count_append, ← workW_working]; exact acc_move (h4.accE d) (tally_set .idle hw)
    accT := by rw [tally, sumBy_set_eq hw (bar1W_buffer c)]; exact h4.accT }

/-- Barrier 1 opens: all `N` tokens of the round are held by the workers, so the round exists,
nothing of it is left, and what was buffered is its contigs. -/
theorem Inv4.release1 (h4 : Inv4 prog0 p q ws buf bat) (hN : 1 ≤ N) (hok : RdOk N prog0) (hlen : ws.length = N)
    (hall : ∀ v ∈ ws, v = .bar 1) : Inv4 prog0 p q (ws.map fun _ => .ph 1) [] (bat ++ [buf]) := by
  have hb1 : sumBy bar1W ws = N := (sumBy_const _ _ _ hall).trans (hlen ▸ Nat.mul_one _)
  have hlow1 := h4.lowTok (hb1 ▸ hN)
  have hT := h4.accT
  rw [tally, hb1, hok.runs] at hT
  have hrlt : bat.length < rounds prog0 := by
    refine Nat.lt_of_not_le fun hge => ?_
    rw [if_neg (Nat.not_lt.mpr hge)] at hT
    exact absurd (Nat.eq_zero_of_add_eq_zero_right hT) (Nat.ne_of_gt hN)
  rw [if_pos hrlt] at hT
  have hz := sumBy_eq_zero_iff.mp (Nat.add_eq_left.mp hT)
  have hlen' : (bat ++ [buf]).length = bat.length + 1 := List.length_append
  exact { h4 with
    low := fun x hx =>
      have : 2 * (bat.length + 1) ≤ x.rd := Nat.lt_of_le_of_ne (hlow1 x hx) (ne_of_tokRW_eq_zero (hz x hx)).symm
      hlen' ▸ this
    lowTok := fun hb => by rw [sumBy_map_const_zero bar1W rfl] at hb; cases hb
    accE := fun c => by
      rw [tally, sumBy_map_const_zero (workW c) rfl, hlen']
      exact (Nat.zero_add _).trans ((Nat.zero_add _).trans (h4.future _ fun x hx => ctgRW_of_ne (Nat.ne_of_lt hx) c))
    accT := by
      rw [tally, sumBy_map_const_zero bar1W rfl, hlen']
      exact (Nat.zero_add _).trans (h4.future _ fun x hx => tokRW_of_ne (Nat.ne_of_lt (Nat.lt_succ_of_lt hx)))
    future := fun f hf => h4.future f fun x hx => hf x (hlen' ▸ Nat.lt_add_right 2 hx)
    done := fun i hi c => by
      by_cases hlt : i < bat.length
      · rw [List.getElem_append_left hlt]; exact h4.done i hlt c
      · cases Nat.le_antisymm (Nat.le_of_lt_succ (hlen' ▸ hi : i < bat.length + 1)) (Nat.le_of_not_lt hlt)
        rw [List.getElem_append_right (Nat.le_refl _), ← h4.accE c, tally, sumBy_const _ _ _ hall,
          sumBy_eq_zero_iff.mpr fun x hx => ctgRW_of_ne (Nat.ne_of_gt (hlow1 x hx)) c]
        simp [workW]
    rle := hlen' ▸ hrlt }

end Inv4

theorem inv4_step {fx : Bool} {prog0 : List Instr} {N : Nat} {s s' : State} {e : Event}
    (hN : 1 ≤ N) (hok : RdOk N prog0) (h5 : Inv5 fx prog0 N s)
    (h4 : Inv4 prog0 s.prog s.queue s.workers s.buffered s.batches) (h : StepI fx s e s') :
    Inv4 prog0 s'.prog s'.queue s'.workers s'.buffered s'.batches := by
  cases h with
  | push hp hg => exact h4.congr rfl (fun _ => rfl) (pend_push .. ▸ hp ▸ rfl) (hp ▸ h4.ord).push
  | waitEmpty hp hq => exact h4.congr rfl (fun _ => rfl) (hp ▸ rfl) ((hp ▸ h4.ord).tail rfl fun _ => hq)
  | close hp => exact h4.congr rfl (fun _ => rfl) (hp ▸ rfl) ((hp ▸ h4.ord).tail rfl nofun)
  | pull hw hm => exact h4.pull hok h5.len hw hm
  | exit hw => exact h4.congr (sumBy_set_eq hw rfl) (fun _ => sumBy_set_eq hw rfl) rfl h4.ord
  | buffer hw => exact h4.buffer hw
  | release1 _ hall => exact h4.release1 hN hok h5.len hall
  | release h2 _ _ hall =>
    exact h4.congr (sumBy_map_eq hall (bar1W_release h2)) (fun _ => sumBy_map_eq hall rfl) rfl h4.ord
  | advance hw h1 => exact h4.congr (sumBy_set_eq hw (bar1W_advance h1)) (fun _ => sumBy_set_eq hw rfl) rfl h4.ord
  | advance4 hw => exact h4.congr (sumBy_set_eq hw rfl) (fun _ => sumBy_set_eq hw rfl) rfl h4.ord

theorem inv4_init {prog : List Instr} {N : Nat} (hsep : PrioSep prog) (hok : RdOk N prog) :
    Inv4 prog prog [] (List.replicate N .idle) [] [] where
  sub := fun _ hx => hx
  ord := ⟨hok.sorted, nofun, nofun, hsep, nofun⟩
  low := fun _ _ => Nat.zero_le _
  lowTok := fun h => by rw [sumBy_replicate] at h; cases h
  accE := fun c => (Nat.zero_add _).trans (tally_init rfl N prog)
  accT := tally_init rfl N prog
  future := fun _ _ => rfl
  done := nofun
  rle := Nat.zero_le _

theorem inv45_reachable {fx : Bool} {prog : List Instr} {N cap : Nat} {s : State}
    (hwf : WellFormedShape N prog) (hsz : fx = false → ∀ x ∈ items prog, x.size ≤ cap)
    (hsep : PrioSep prog) (hok : RdOk N prog)
    (hr : Reachable fx prog cap N s) :
    Inv5 fx prog N s ∧ Inv4 prog s.prog s.queue s.workers s.buffered s.batches := by
  induction hr with
  | init => exact ⟨inv5_init hwf hsz, inv4_init hsep hok⟩
  | step _ hs ih =>
    obtain ⟨e, he⟩ := hs
    have hI := stepI_of_step? he
    exact ⟨inv5_step ih.1 hI, inv4_step hwf.npos hok ih.1 ih.2 hI⟩

theorem sumBy_ctgRW {l : List Item} (hpar : ∀ x ∈ l, (x.isTok = true ↔ x.rd % 2 = 1)) (r c : Nat) :
    sumBy (ctgRW r c) l = ((l.filter (fun x => !x.isTok && x.rd == 2 * r)).map Item.seq).count c := by
  rw [List.count_eq_countP, List.countP_map, List.countP_filter]
  refine (sumBy_indicator (fun x : Item => x.rd = 2 * r ∧ x.seq = c) l).trans (List.countP_congr fun x hx => ?_)
  simp only [decide_eq_true_eq, Bool.and_eq_true, beq_iff_eq, Bool.not_eq_true', Function.comp_apply]
  refine ⟨fun ⟨h1, h2⟩ => ⟨h2, Bool.eq_false_iff.mpr fun ht => ?_, h1⟩, fun ⟨h2, _, h1⟩ => ⟨h1, h2⟩⟩
  have := (hpar x hx).mp ht
  rw [h1, Nat.mul_mod_right] at this; cases this

/-- Schedule independence, for either push guard: in a final state the closed batches are the rounds
of the program, and nothing was buffered after the last round. -/
theorem reachable_final_batches {fx : Bool} {prog : List Instr} {N cap : Nat} {s : State}
    (hwf : WellFormedShape N prog) (hr : Reachable fx prog cap N s)
    (hsz : fx = false → ∀ x ∈ items prog, x.size ≤ cap) (hsep : PrioSep prog) (hok : RdOk N prog) (hf : Final s) :
    s.batches.length = rounds prog ∧
      (∀ r (h : r < s.batches.length), (s.batches[r]).Perm (roundContigs prog r)) ∧ s.buffered = [] := by
  have h4 := (inv45_reachable hwf hsz hsep hok hr).2
  have hlen : s.batches.length = rounds prog := by
    refine Nat.le_antisymm h4.rle (Nat.le_of_not_lt fun hlt => ?_)
    have hT := h4.accT
    rw [tally_final hf rfl, hok.runs, if_pos hlt] at hT
    exact absurd hT.symm (Nat.ne_of_gt hwf.npos)
  refine ⟨hlen, fun r hr => ?_, ?_⟩
  · rw [List.perm_iff_count]
    intro c
    rw [h4.done r hr c, roundContigs, sumBy_ctgRW hok.parity]
  · -- the contigs of a round after the last do not exist
    refine List.eq_nil_iff_forall_not_mem.mpr fun c hc => ?_
    have hE := h4.accE c
    rw [tally_final hf rfl, Nat.add_zero,
      sumBy_eq_zero_iff.mpr fun x hx => ctgRW_of_ne (Nat.ne_of_lt (hlen ▸ hok.bound x hx)) c] at hE
    exact List.count_eq_zero.mp hE hc

/-! ### Scan: a local criterion for generated programs -/

/-- scanning state: round `r`, `k` tokens of the current run seen, `d` = a contig was pushed in the
current round, `hi` = upper bound for the priority of the next item -/
structure SS where
  r : Nat
  k : Nat
  d : Bool
  hi : Int

/-- The scanner accepts one pushed item: a contig (cost `≥ 1`, round index `2r`) only between token
runs, a token (round index `2r + 1`) as the next of a run of `N`; priorities do not increase, and
drop strictly after a complete run. -/
inductive SStep (N : Nat) : SS → Item → SS → Prop where
  | contig {r : Nat} {d : Bool} {hi : Int} {x : Item} : x.isTok = false → x.rd = 2 * r → 1 ≤ x.cost → x.prio ≤ hi →
      SStep N ⟨r, 0, d, hi⟩ x ⟨r, 0, true, x.prio⟩
  | token {r k : Nat} {d : Bool} {hi : Int} {x : Item} : x.isTok = true → x.rd = 2 * r + 1 → x.prio ≤ hi → k + 1 < N →
      SStep N ⟨r, k, d, hi⟩ x ⟨r, k + 1, d, x.prio⟩
  | tokenLast {r k : Nat} {d : Bool} {hi : Int} {x : Item} : x.isTok = true → x.rd = 2 * r + 1 → x.prio ≤ hi →
      k + 1 = N → SStep N ⟨r, k, d, hi⟩ x ⟨r + 1, 0, false, x.prio - 1⟩

/-- A sufficient local criterion for everything C04/C05 need from a program body: every push is
accepted by the scanner, and a `waitEmpty` (between token runs only) lifts the priority bound. -/
inductive Scan (N : Nat) : SS → List Instr → SS → Prop where
  | nil (st : SS) : Scan N st [] st
  | push {st st1 st' : SS} {x : Item} {rest : List Instr} : SStep N st x st1 → Scan N st1 rest st' →
      Scan N st (.push x :: rest) st'
  | wait {r : Nat} {d : Bool} {hi hi' : Int} {rest : List Instr} {st' : SS} :
      Scan N ⟨r, 0, d, hi'⟩ rest st' → Scan N ⟨r, 0, d, hi⟩ (.waitEmpty :: rest) st'

theorem scan_append {N : Nat} {st st1 st2 : SS} {l1 l2 : List Instr}
    (h1 : Scan N st l1 st1) (h2 : Scan N st1 l2 st2) : Scan N st (l1 ++ l2) st2 := by
  induction h1 with
  | nil st => exact h2
  | push hs _ ih => exact .push hs (ih h2)
  | wait _ ih => exact .wait (ih h2)

/-- A scan between token runs has the shape C05 asks for: no `close`, tokens in runs of `N`. -/
theorem scan_shape {N : Nat} {st st' : SS} {l : List Instr} (h : Scan N st l st') :
    Instr.close ∉ l ∧ (st'.k = 0 → TokRuns N st.k l) := by
  induction h with
  | nil st => exact ⟨List.not_mem_nil, fun hk => hk ▸ .nil⟩
  | push hs _ ih =>
    refine ⟨fun hm => ih.1 ((List.mem_cons.mp hm).resolve_left nofun), fun hk => ?_⟩
    cases hs with
    | contig ht => exact .contig ht (ih.2 hk)
    | token ht _ _ hlt => exact .token ht hlt (ih.2 hk)
    | tokenLast ht _ _ heq => exact .tokenLast ht heq (ih.2 hk)
  | wait _ ih => exact ⟨fun hm => ih.1 ((List.mem_cons.mp hm).resolve_left nofun), fun hk => .wait (ih.2 hk)⟩

/-! ### PrioSep from Scan -/

/-- `x` is above everything of a later round that the scanner will accept from state `st` on
(before the next `waitEmpty`) -/
def Dom (x : Item) (st : SS) : Prop :=
  st.hi ≤ x.prio ∧ (x.rd < 2 * st.r → st.hi < x.prio) ∧ x.rd ≤ 2 * st.r + 1 ∧ (x.rd = 2 * st.r → 1 ≤ x.cost)

theorem tok_cost {x : Item} (h : x.isTok = true) : x.cost = 0 := by
  cases x with
  | contig => cases h
  | token => rfl

/-- a token of round `r` is below whatever dominates the scanner state in round `r` -/
theorem taskLt_token {x y : Item} {r k : Nat} {d : Bool} {hi : Int} (hd : Dom x ⟨r, k, d, hi⟩) (ht : y.isTok = true)
    (hp : y.prio ≤ hi) (hlt : x.rd < 2 * r + 1) : taskLt y x := by
  obtain ⟨h1, h2, _, h4⟩ := hd
  by_cases h : x.rd < 2 * r
  · exact .inl (Int.lt_of_le_of_lt hp (h2 h))
  · rcases Int.lt_or_eq_of_le (Int.le_trans hp h1) with hlt' | heq
    · exact .inl hlt'
    · exact .inr ⟨heq, .inl (tok_cost ht ▸ h4 (Nat.le_antisymm (Nat.le_of_lt_succ hlt) (Nat.le_of_not_lt h)))⟩

theorem dom_step {N : Nat} {st st1 : SS} {x y : Item} (hs : SStep N st y st1) (hd : Dom x st) :
    (x.rd < y.rd → taskLt y x) ∧ Dom x st1 := by
  cases hs with
  | contig ht hrd hc hp =>
    obtain ⟨h1, h2, h3, h4⟩ := hd
    exact ⟨fun hlt => .inl (Int.lt_of_le_of_lt hp (h2 (hrd ▸ hlt))), Int.le_trans hp h1,
      fun h => Int.lt_of_le_of_lt hp (h2 h), h3, h4⟩
  | token ht hrd hp hk =>
    refine ⟨fun hlt => taskLt_token hd ht hp (hrd ▸ hlt), ?_⟩
    obtain ⟨h1, h2, h3, h4⟩ := hd
    exact ⟨Int.le_trans hp h1, fun h => Int.lt_of_le_of_lt hp (h2 h), h3, h4⟩
  | @tokenLast r _ _ _ _ ht hrd hp hk =>
    refine ⟨fun hlt => taskLt_token hd ht hp (hrd ▸ hlt), ?_⟩
    obtain ⟨h1, _, h3, _⟩ := hd
    have hle := Int.le_trans hp h1
    exact ⟨Int.le_trans (Int.sub_le_self _ (by decide)) hle, fun _ => Int.sub_one_lt_of_le hle,
      Nat.le_trans h3 (show 2 * r + 1 ≤ 2 * (r + 1) + 1 by omega),
      fun h => absurd (h ▸ h3) (show ¬ 2 * (r + 1) ≤ 2 * r + 1 by omega)⟩

theorem dom_self {N : Nat} {st st1 : SS} {x : Item} (hs : SStep N st x st1) : Dom x st1 := by
  cases hs with
  | contig ht hrd hc hp => exact ⟨Int.le_refl _, fun h => absurd (hrd ▸ h) (Nat.lt_irrefl _), hrd ▸ Nat.le_succ _, fun _ => hc⟩
  | token ht hrd hp hk =>
    exact ⟨Int.le_refl _, fun h => absurd (hrd ▸ h) (Nat.not_lt.mpr (Nat.le_succ _)), hrd ▸ Nat.le_refl _,
      fun h => absurd (hrd ▸ h) (Nat.succ_ne_self _)⟩
  | @tokenLast r _ _ _ _ ht hrd hp hk =>
    exact ⟨Int.sub_le_self _ (by decide), fun _ => Int.sub_one_lt_of_le (Int.le_refl _),
      hrd ▸ (show 2 * r + 1 ≤ 2 * (r + 1) + 1 by omega),
      fun h => absurd (hrd ▸ h) (show 2 * r + 1 ≠ 2 * (r + 1) by omega)⟩

theorem scan_sepFrom {N : Nat} {st st' : SS} {l : List Instr} (h : Scan N st l st') (x : Item)
    (hd : Dom x st) : sepFrom x (l ++ [.close]) := by
  induction h with
  | nil st => trivial
  | push hs _ ih => exact ⟨(dom_step hs hd).1, ih (dom_step hs hd).2⟩
  | wait _ _ => trivial

theorem scan_prioSep {N : Nat} {st st' : SS} {l : List Instr} (h : Scan N st l st') : PrioSep (l ++ [.close]) := by
  induction h with
  | nil st => trivial
  | push hs hrest ih => exact ⟨scan_sepFrom hrest _ (dom_self hs), ih⟩
  | wait _ ih => exact ih

/-! ### Scan gives the round annotations (RdOk) and the shape -/

/-- the least round index the scanner accepts next -/
def lo : SS → Nat
  | ⟨r, 0, _, _⟩ => 2 * r
  | ⟨r, _ + 1, _, _⟩ => 2 * r + 1
/-- strict upper bound of the round indices accepted so far -/
def up : SS → Nat
  | ⟨r, 0, false, _⟩ => 2 * r
  | ⟨r, 0, true, _⟩ => 2 * r + 1
  | ⟨r, _ + 1, _, _⟩ => 2 * r + 2
/-- tokens of round `ρ` accepted so far -/
def seen (N : Nat) (st : SS) (ρ : Nat) : Nat := if ρ < st.r then N else if ρ = st.r then st.k else 0

theorem lo_le (r k : Nat) (d : Bool) (hi : Int) : lo ⟨r, k, d, hi⟩ ≤ 2 * r + 1 := by
  cases k
  · exact Nat.le_succ _
  · exact Nat.le_refl _

theorem up_le (r k : Nat) (d : Bool) (hi : Int) : up ⟨r, k, d, hi⟩ ≤ 2 * r + 2 := by
  cases k
  · cases d
    · exact Nat.le_add_right _ 2
    · exact Nat.le_succ _
  · exact Nat.le_refl _

theorem step_bounds {N : Nat} {st st1 : SS} {x : Item} (hs : SStep N st x st1) :
    lo st ≤ x.rd ∧ x.rd < up st1 ∧ up st ≤ up st1 ∧ up st1 ≤ lo st1 + 1 ∧ (x.isTok = true ↔ x.rd % 2 = 1) := by
  cases hs with
  | @contig r d hi x ht hrd =>
    exact ⟨hrd ▸ Nat.le_refl _, hrd ▸ Nat.lt_succ_self _, by cases d <;> simp [up], Nat.le_refl _, by simp [ht, hrd]⟩
  | @token r k d hi x ht hrd =>
    exact ⟨hrd ▸ lo_le .., hrd ▸ Nat.lt_succ_self _, up_le .., Nat.le_refl _, by simp [ht, hrd]⟩
  | @tokenLast r k d hi x ht hrd =>
    exact ⟨hrd ▸ lo_le .., hrd ▸ Nat.lt_succ_self _, up_le .., Nat.le_succ _, by simp [ht, hrd]⟩

/-- The round indices of a scanned body: between the bounds of its end states, even exactly for contigs,
and non-decreasing. -/
theorem scan_bounds {N : Nat} {st st' : SS} {l : List Instr} (h : Scan N st l st') :
    up st ≤ up st' ∧ (∀ x ∈ items l, lo st ≤ x.rd ∧ x.rd < up st' ∧ (x.isTok = true ↔ x.rd % 2 = 1)) ∧
      (items l).Pairwise (fun a b => a.rd ≤ b.rd) := by
  induction h with
  | nil st => exact ⟨Nat.le_refl _, nofun, .nil⟩
  | @push st st1 st' x rest hs _ ih =>
    obtain ⟨h1, h2, h3, h4, h5⟩ := step_bounds hs
    obtain ⟨i1, i2, i3⟩ := ih
    have hx : ∀ y ∈ items rest, x.rd ≤ y.rd := fun y hy =>
      Nat.le_of_lt_succ (Nat.lt_of_lt_of_le h2 (Nat.le_trans h4 (Nat.succ_le_succ (i2 y hy).1)))
    exact ⟨Nat.le_trans h3 i1, List.forall_mem_cons.mpr ⟨⟨h1, Nat.lt_of_lt_of_le h2 i1, h5⟩,
      fun y hy => ⟨Nat.le_trans h1 (hx y hy), (i2 y hy).2⟩⟩, List.pairwise_cons.mpr ⟨hx, i3⟩⟩
  | @wait r d hi hi' rest st' _ ih => cases d <;> exact ih

theorem tokRW_token {x : Item} {r : Nat} (hrd : x.rd = 2 * r + 1) (ρ : Nat) :
    tokRW ρ x = if ρ = r then 1 else 0 := by
  by_cases h : ρ = r
  · subst h; rw [tokRW, if_pos hrd, if_pos rfl]
  · rw [tokRW_of_ne (by omega), if_neg h]

theorem step_seen {N : Nat} {st st1 : SS} {x : Item} (hs : SStep N st x st1) (ρ : Nat) :
    seen N st ρ + tokRW ρ x = seen N st1 ρ := by
  cases hs with
  | @contig r d hi x _ hrd => rw [tokRW_of_ne (by omega)]; rfl
  | @token r k d hi x _ hrd =>
    rw [tokRW_token hrd]
    by_cases h : ρ = r
    · subst h; simp only [seen, Nat.lt_irrefl, if_false, if_true]
    · simp only [seen, h, if_false, Nat.add_zero]
  | @tokenLast r k d hi x _ hrd _ hk =>
    rw [tokRW_token hrd]
    by_cases h : ρ = r
    · subst h; simp only [seen, Nat.lt_irrefl, Nat.lt_succ_self, if_false, if_true, hk]
    · simp only [seen, h, if_false, Nat.add_zero, ite_self, Nat.lt_succ_iff, Nat.le_iff_lt_or_eq, or_false]

theorem scan_counts {N : Nat} {st st' : SS} {l : List Instr} (h : Scan N st l st') (ρ : Nat) :
    seen N st ρ + sumBy (tokRW ρ) (items l) = seen N st' ρ := by
  induction h with
  | nil st => rfl
  | push hs _ ih => rw [items_push, sumBy_cons, ← Nat.add_assoc, step_seen hs, ih]
  | wait _ ih => exact ih

theorem maxRd_cons (a : Item) (l : List Item) : maxRd (a :: l) = max a.rd (maxRd l) := rfl

theorem maxRd_ge {l : List Item} {x : Item} (h : x ∈ l) : x.rd ≤ maxRd l := by
  induction l with
  | nil => cases h
  | cons a l ih =>
    rw [maxRd_cons]
    rcases List.mem_cons.mp h with rfl | h
    · exact Nat.le_max_left ..
    · exact Nat.le_trans (ih h) (Nat.le_max_right ..)

theorem maxRd_le {l : List Item} {b : Nat} (h : ∀ x ∈ l, x.rd ≤ b) : maxRd l ≤ b := by
  induction l with
  | nil => exact Nat.zero_le _
  | cons a l ih =>
    rw [maxRd_cons]
    exact Nat.max_le.mpr ⟨h a List.mem_cons_self, ih fun x hx => h x (List.mem_cons_of_mem _ hx)⟩

theorem half_succ_eq {m R : Nat} (hle : m ≤ 2 * R - 1) (hge : R ≠ 0 → 2 * (R - 1) + 1 ≤ m) : (m + 1) / 2 = R := by
  cases R with
  | zero => cases Nat.le_zero.mp hle; rfl
  | succ n =>
    cases Nat.le_antisymm hle (hge (Nat.succ_ne_zero n))
    exact Nat.mul_div_cancel_left (n + 1) (by decide : 0 < 2)

theorem scan_rdOk {N R : Nat} {hi hi' : Int} {body : List Instr} (hN : 1 ≤ N)
    (h : Scan N ⟨0, 0, false, hi⟩ body ⟨R, 0, false, hi'⟩) : RdOk N (body ++ [.close]) ∧ rounds (body ++ [.close]) = R := by
  have hit : items (body ++ [.close]) = items body := (items_append ..).trans (List.append_nil _)
  obtain ⟨_, hb, hsorted⟩ := scan_bounds h
  have hcnt : ∀ ρ, sumBy (tokRW ρ) (items body) = if ρ < R then N else 0 := fun ρ => by
    simpa only [seen, Nat.not_lt_zero, if_false, ite_self, Nat.zero_add] using scan_counts h ρ
  have hbound : ∀ x ∈ items body, x.rd < 2 * R := fun x hx => (hb x hx).2.1
  have hR : rounds (body ++ [.close]) = R := by
    rw [rounds, hit]
    refine half_succ_eq (maxRd_le fun y hy => Nat.le_sub_one_of_lt (hbound y hy)) fun h0 => ?_
    -- a token of the last round is in the body
    have hc := hcnt (R - 1)
    rw [if_pos (Nat.sub_one_lt h0)] at hc
    obtain ⟨x, hx, hxr⟩ := List.countP_pos_iff.mp (sumBy_tokRW .. ▸ hc ▸ hN)
    exact beq_iff_eq.mp hxr ▸ maxRd_ge hx
  exact ⟨⟨hit ▸ hsorted, hit ▸ fun x hx => (hb x hx).2.2, fun r => by rw [hit, hR]; exact hcnt r, by rw [hit, hR]; exact hbound⟩, hR⟩

/-! ### what the generators append to a scan -/

theorem tokens_scan {N r q : Nat} {d : Bool} {p hi : Int} (hN : 1 ≤ N) (hp : p ≤ hi) :
    Scan N ⟨r, 0, d, hi⟩ (tokens N q p (2 * r + 1)) ⟨r + 1, 0, false, p - 1⟩ := by
  -- the last `m` tokens of the run
  have key : ∀ (m k : Nat) (hi : Int), k + m = N → 1 ≤ m → p ≤ hi →
      Scan N ⟨r, k, d, hi⟩ (List.replicate m (.push (.token q p (2 * r + 1)))) ⟨r + 1, 0, false, p - 1⟩ := by
    intro m
    induction m with
    | zero => exact fun _ _ _ h => absurd h (by decide)
    | succ m ih =>
      intro k hi hk _ hp
      by_cases hm : m = 0
      · subst hm; exact .push (.tokenLast rfl rfl hp hk) (.nil _)
      · exact .push (.token rfl rfl hp (by omega))
          (ih (k + 1) p (by omega) (Nat.pos_of_ne_zero hm) (Int.le_refl _))
  exact key N 0 hi (Nat.zero_add N) hN hp

/-- One `push` call: the scanner goes on in the same or the next round with the priority of the pushed
contig as bound, which stays above the counter; the counter drops by at most one. -/
theorem pushContig_scan {N pack : Nat} (single : Bool) (hN : 1 ≤ N) (g : Gen) (cur hi : Int) (sz : Nat) (d : Bool)
    (h1 : cur ≤ hi) (h2 : g.nextPrio < cur) (hsz : 1 ≤ sz) :
    Scan N ⟨g.rd, 0, d, hi⟩ (pushContig single N pack g cur sz).1
      ⟨(pushContig single N pack g cur sz).2.1.rd, 0, true, (pushContig single N pack g cur sz).2.2⟩ ∧
    (pushContig single N pack g cur sz).2.1.nextPrio < (pushContig single N pack g cur sz).2.2 ∧
    g.nextPrio - 1 ≤ (pushContig single N pack g cur sz).2.1.nextPrio := by
  unfold pushContig
  split
  · exact ⟨scan_append (tokens_scan hN h1)
      (.push (.contig rfl rfl hsz (Int.le_sub_one_of_lt h2)) (.nil _)), Int.sub_one_lt_of_le (Int.le_refl _), Int.le_refl _⟩
  · exact ⟨.push (.contig rfl rfl hsz h1) (.nil _), h2, Int.sub_le_self _ (by decide)⟩

/-- What a generator call appends to a scan. `r = (ops, g')` is its result from counters `g`: from the
round of `g`, between token runs, with priority bound `hi` above the counter, the scanner accepts `ops`
and is then between runs in the round of `g'`, its bound still above the counter, which has dropped by
at most `k`. -/
def Emits (N k : Nat) (g : Gen) (hi : Int) (d : Bool) (r : List Instr × Gen) : Prop :=
  ∃ d' hi', Scan N ⟨g.rd, 0, d, hi⟩ r.1 ⟨r.2.rd, 0, d', hi'⟩ ∧ r.2.nextPrio < hi' ∧ g.nextPrio - k ≤ r.2.nextPrio

/-- the priority counter drops by at most `k`, then by at most `n` -/
theorem sub_le_chain {a b c : Int} {k n m : Nat} (h1 : a - k ≤ b) (h2 : b - n ≤ c) (e : m = k + n) : a - m ≤ c := by
  omega

theorem emits_nil {N : Nat} {g : Gen} {hi : Int} {d : Bool} (h : g.nextPrio < hi) : Emits N 0 g hi d ([], g) :=
  ⟨d, hi, .nil _, h, Int.le_of_eq (Int.sub_zero _)⟩

theorem Emits.append {N k n m : Nat} {g : Gen} {hi : Int} {d : Bool} {r1 r2 : List Instr × Gen}
    (h1 : Emits N k g hi d r1) (h2 : ∀ d1 hi1, r1.2.nextPrio < hi1 → Emits N n r1.2 hi1 d1 r2) (e : m = k + n) :
    Emits N m g hi d (r1.1 ++ r2.1, r2.2) := by
  obtain ⟨d1, hi1, hs1, hlt1, hlow1⟩ := h1
  obtain ⟨d2, hi2, hs2, hlt2, hlow2⟩ := h2 d1 hi1 hlt1
  exact ⟨d2, hi2, scan_append hs1 hs2, hlt2, sub_le_chain hlow1 hlow2 e⟩

theorem pushContigs_scan {N pack : Nat} (single : Bool) (hN : 1 ≤ N) :
    ∀ (l : List Nat) (g : Gen) (cur hi : Int) (d : Bool), cur ≤ hi → g.nextPrio < cur → (∀ sz ∈ l, 1 ≤ sz) →
      Emits N l.length g hi d (pushContigs single N pack g cur l)
  | [], g, cur, hi, d, h1, h2, _ => emits_nil (Int.lt_of_lt_of_le h2 h1)
  | sz :: rest, g, cur, hi, d, h1, h2, hsz => by
    obtain ⟨hs1, hlt, hlow⟩ :=
      pushContig_scan (pack := pack) single hN g cur hi sz d h1 h2 (hsz sz List.mem_cons_self)
    obtain ⟨d', hi', hs2, hlt2, hlow2⟩ := pushContigs_scan single hN rest _ _ _ true (Int.le_refl _) hlt
      fun z hz => hsz z (List.mem_cons_of_mem _ hz)
    exact ⟨d', hi', scan_append hs1 hs2, hlt2, sub_le_chain (k := 1) hlow hlow2 (Nat.add_comm _ 1)⟩

theorem pushSample_scan {N pack : Nat} (single : Bool) (hN : 1 ≤ N) (s : List Nat) (g : Gen) (hi : Int) (d : Bool)
    (h : g.nextPrio < hi) : Emits N (s.length + 1) g hi d (pushSample single N pack g s) := by
  unfold pushSample
  split
  · exact ⟨d, hi, .nil _, h, Int.sub_le_self _ (Int.natCast_nonneg _)⟩
  · obtain ⟨d', hi', hs, hlt, hlow⟩ := pushContigs_scan (pack := pack) single hN (s.filter (· ≠ 0))
      { g with nextPrio := g.nextPrio - 1 } g.nextPrio hi d (Int.le_of_lt h) (Int.sub_one_lt_of_le (Int.le_refl _))
      fun z hz => Nat.pos_of_ne_zero (of_decide_eq_true (List.mem_filter.mp hz).2)
    have := List.length_filter_le (· ≠ 0) s
    exact ⟨d', hi', hs, hlt, by simp only [] at hlow; omega⟩

/-- `#samples + #contigs`: how often `next_priority` can be decremented (once per sample, at most once per
`push`). Below, `weight samples < 2146483647 = 2^31 − 1 − 1 000 000` keeps every contig priority above the
1 000 000 of the `sync_and_flush` and final tokens. -/
def weight (samples : List (List Nat)) : Nat := (samples.map (fun s => s.length + 1)).sum

theorem weight_cons (s : List Nat) (ss : List (List Nat)) : weight (s :: ss) = s.length + 1 + weight ss :=
  List.sum_cons

theorem pushSamples_scan {N pack : Nat} (single : Bool) (hN : 1 ≤ N) :
    ∀ (ss : List (List Nat)) (g : Gen) (hi : Int) (d : Bool), g.nextPrio < hi →
      Emits N (weight ss) g hi d (pushSamples single N pack g ss)
  | [], _, _, _, h => emits_nil h
  | s :: rest, g, hi, d, h =>
    (pushSample_scan single hN s g hi d h).append (fun d1 hi1 h1 => pushSamples_scan single hN rest _ hi1 d1 h1)
      (weight_cons s rest)

theorem weight_filtered (samples : List (List Nat)) :
    weight ((samples.map (fun s => s.filter (· ≠ 0))).filter (· ≠ [])) ≤ weight samples := by
  induction samples with
  | nil => exact Nat.le_refl _
  | cons s ss ih =>
    have hfl : (s.filter (· ≠ 0)).length ≤ s.length := List.length_filter_le _ _
    rw [List.map_cons, List.filter_cons, weight_cons]
    split
    · rw [weight_cons]; omega
    · omega

/-- Every program ends with `finalOps`: one more token run, for which the priority bound must still
be at least 1 000 000, and `close`. -/
theorem Emits.finalOps {N k : Nat} {g : Gen} {hi : Int} {r : List Instr × Gen} (hN : 1 ≤ N)
    (h : Emits N k g hi false r) (hk : 1000000 ≤ g.nextPrio - k) :
    ∃ body R hi', r.1 ++ finalOps N r.2 = body ++ [.close] ∧ Scan N ⟨g.rd, 0, false, hi⟩ body ⟨R, 0, false, hi'⟩ := by
  obtain ⟨d', hi', hs, hlt, hlow⟩ := h
  exact ⟨_, _, _, (List.append_assoc ..).symm, scan_append hs (tokens_scan hN (by omega))⟩

/-- `drain`'s wait and `sync_and_flush` (tokens of priority 1 000 000 and a wait of its own) lift the
bound before and after, so they fit under any bound. -/
theorem emits_drain_sync {N : Nat} (hN : 1 ≤ N) (g : Gen) (hi : Int) (d : Bool) :
    Emits N 0 g hi d (.waitEmpty :: (syncAndFlush N g).1, (syncAndFlush N g).2) :=
  ⟨false, g.nextPrio + 1, .wait (scan_append (tokens_scan hN (Int.le_refl _)) (.wait (.nil _))),
    Int.lt_succ _, Int.le_of_eq (Int.sub_zero _)⟩

theorem programMulti_scan {N pack : Nat} (hN : 1 ≤ N) (samples : List (List Nat)) (hw : weight samples < 2146483647) :
    ∃ body R hi', programMulti N pack samples = body ++ [.close] ∧
      Scan N ⟨0, 0, false, 2147483648⟩ body ⟨R, 0, false, hi'⟩ := by
  have h := (pushSample_scan (pack := pack) false hN (samples.headD []) Gen.init 2147483648 false (by decide)).append
    (fun d hi _ => (emits_drain_sync hN _ hi d).append
      (fun d hi h => pushSamples_scan (pack := pack) false hN samples.tail _ hi d h) rfl) rfl
  have hwt : (samples.headD []).length + 1 + weight samples.tail ≤ weight samples + 1 := by
    cases samples with
    | nil => exact Nat.le_refl 1
    | cons s ss => rw [weight_cons]; exact Nat.le_succ _
  obtain ⟨body, R, hi', e, hs⟩ := h.finalOps hN (show (1000000 : Int) ≤ 2147483647 - _ by omega)
  exact ⟨body, R, hi', by simpa [programMulti] using e, hs⟩

theorem programSingle_scan {N pack : Nat} (hN : 1 ≤ N) (samples : List (List Nat)) (hw : weight samples < 2146483647) :
    ∃ body R hi', programSingle N pack samples = body ++ [.close] ∧
      Scan N ⟨0, 0, false, 2147483648⟩ body ⟨R, 0, false, hi'⟩ := by
  have hwf := weight_filtered samples
  unfold programSingle
  split
  · exact (emits_nil (by decide)).finalOps hN (by decide)
  · rename_i s rest hfs
    rw [hfs, weight_cons] at hwf
    have h := (pushSample_scan (pack := pack) true hN s Gen.init 2147483648 false (by decide)).append
      (fun d hi h => (show Emits N 0 _ hi d (if rest = [] then [] else [Instr.waitEmpty], _) by
          split
          · exact emits_nil h
          · exact ⟨d, hi, .wait (.nil _), h, Int.le_of_eq (Int.sub_zero _)⟩).append
        (fun d hi h => pushSamples_scan (pack := pack) true hN rest _ hi d h) rfl) rfl
    obtain ⟨body, R, hi', e, hs⟩ := h.finalOps hN (show (1000000 : Int) ≤ 2147483647 - _ by omega)
    exact ⟨body, R, hi', by simpa using e, hs⟩

/-- What C04 and C05 need of the programs of the CLI, both modes. -/
theorem programOf_spec {N pack : Nat} (single : Bool) (hN : 1 ≤ N) (samples : List (List Nat))
    (hw : weight samples < 2146483647) :
    WellFormedShape N (programOf single N pack samples) ∧ RdOk N (programOf single N pack samples) ∧
      PrioSep (programOf single N pack samples) := by
  have ⟨body, R, hi', hb, hs⟩ : ∃ body R hi', programOf single N pack samples = body ++ [.close] ∧
      Scan N ⟨0, 0, false, 2147483648⟩ body ⟨R, 0, false, hi'⟩ := by
    unfold programOf
    split
    · exact programSingle_scan hN samples hw
    · exact programMulti_scan hN samples hw
  rw [hb]
  exact ⟨⟨hN, body, rfl, (scan_shape hs).1, (scan_shape hs).2 rfl⟩, (scan_rdOk hN hs).1, scan_prioSep hs⟩

/-! ### PrioSep in words -/

/-- a push of `i :: r` is `i` itself or a push of `r` -/
theorem forall_split_cons {P : List Instr → Item → List Instr → Prop} (i : Instr) (r : List Instr) :
    (∀ b y c, i :: r = b ++ Instr.push y :: c → P b y c) ↔
      (∀ y, i = .push y → P [] y r) ∧ ∀ b y c, r = b ++ Instr.push y :: c → P (i :: b) y c := by
  constructor
  · exact fun h => ⟨fun y e => h [] y r (e ▸ rfl), fun b y c e => h (i :: b) y c (e ▸ rfl)⟩
  · rintro ⟨h1, h2⟩ b y c e
    cases b with
    | nil => cases e; exact h1 y rfl
    | cons j b => cases e; exact h2 b y c rfl

theorem sepFrom_iff (x : Item) (p : List Instr) :
    sepFrom x p ↔ ∀ b y c, p = b ++ Instr.push y :: c → x.rd < y.rd → taskLt y x ∨ Instr.waitEmpty ∈ b := by
  induction p with
  | nil => simp [sepFrom]
  | cons i r ih =>
    rw [forall_split_cons]
    cases i <;>
      simp only [sepFrom, ih, Instr.push.injEq, List.not_mem_nil, or_false, forall_eq', List.mem_cons, reduceCtorEq,
        false_or, false_implies, implies_true, true_or, or_true, and_self, true_and]

theorem prioSep_iff_sepFrom (p : List Instr) :
    PrioSep p ↔ ∀ a x c, p = a ++ Instr.push x :: c → sepFrom x c := by
  induction p with
  | nil => simp [PrioSep]
  | cons i r ih =>
    rw [forall_split_cons]
    cases i <;>
      simp only [PrioSep, ih, Instr.push.injEq, forall_eq', reduceCtorEq, false_implies, implies_true, true_and]

end Ragc.Pipeline
