import RagcModel.Model.Splitters
import RagcModel.Lemmas.Kmer
/-!
The second pass of splitter selection (`findLoop`, C11): the loop body as an equation, the end
rule, the candidate test, the positions of the picks (`current_len` invariant), and the window the
automaton holds at each pick (`WindowAt`, chained from pick to pick).
-/
namespace Ragc.Splitters
open Ragc.Kmer

theorem feed_singleton (km : Kmer) (b : UInt64) :
    feed km [b] = if b > 3 then reset km else insert km b := rfl

/-- `recent_kmers` after the symbol `b` at `pos` when no splitter is picked there. -/
def recentNext (km : Kmer) (recent : List (Nat × UInt64)) (pos : Nat) (b : UInt64) :
    List (Nat × UInt64) :=
  if b > 3 then [] else if isFull (insert km b) then (pos, data (insert km b)) :: recent else recent

/-- The loop body as two cases: a splitter is picked at `b` and everything restarts, or the scan
    goes on with the automaton one symbol further. -/
theorem findLoop_cons (isCand : UInt64 → Bool) (seg : Nat) (km : Kmer) (cl : Nat)
    (recent : List (Nat × UInt64)) (pos : Nat) (b : UInt64) (bs : List UInt64) :
    findLoop isCand seg km cl recent pos (b :: bs) =
      if ¬ b > 3 ∧ isFull (insert km b) = true ∧ seg ≤ cl ∧ isCand (data (insert km b)) = true then
        ⟨pos, data (insert km b), false⟩ ::
          findLoop isCand seg (reset (insert km b)) 1 [] (pos + 1) bs
      else findLoop isCand seg (feed km [b]) (cl + 1) (recentNext km recent pos b) (pos + 1) bs := by
  rw [findLoop, feed_singleton, recentNext]
  by_cases hb : b > 3
  · simp only [hb, if_true, not_true, false_and, if_false]
  · by_cases hf : isFull (insert km b) = true
    · simp only [hb, hf, if_true, if_false, not_false_eq_true, true_and, ge_iff_le,
        Bool.and_eq_true, decide_eq_true_eq]
    · simp only [hb, hf, Bool.false_eq_true, if_false, not_false_eq_true, true_and, false_and]

/-- The end rule yields nothing, or the first entry of `recent` that passes the candidate test. -/
theorem endPick_cases (isCand : UInt64 → Bool) (recent : List (Nat × UInt64)) :
    endPick isCand recent = [] ∨
      ∃ q v, (q, v) ∈ recent ∧ isCand v = true ∧ endPick isCand recent = [⟨q, v, true⟩] := by
  induction recent with
  | nil => exact .inl rfl
  | cons r rest ih =>
    obtain ⟨q, v⟩ := r
    rw [endPick]
    split
    · next hc => exact .inr ⟨q, v, List.mem_cons_self, hc, rfl⟩
    · rcases ih with h | ⟨q', v', hm, hc, h⟩
      · exact .inl h
      · exact .inr ⟨q', v', List.mem_cons_of_mem _ hm, hc, h⟩

theorem mem_endPick {isCand : UInt64 → Bool} {recent : List (Nat × UInt64)} {p : Pick}
    (h : p ∈ endPick isCand recent) :
    isCand p.kmer = true ∧ p.atEnd = true ∧ (p.pos, p.kmer) ∈ recent := by
  rcases endPick_cases isCand recent with h0 | ⟨q, v, hm, hc, h1⟩
  · rw [h0] at h; cases h
  · rw [h1, List.mem_singleton] at h
    subst h
    exact ⟨hc, rfl, hm⟩

theorem endPick_length_le (isCand : UInt64 → Bool) (recent : List (Nat × UInt64)) :
    (endPick isCand recent).length ≤ 1 := by
  rcases endPick_cases isCand recent with h | ⟨_, _, _, _, h⟩ <;> rw [h] <;> simp

theorem filter_loop_endPick (isCand : UInt64 → Bool) (recent : List (Nat × UInt64)) :
    (endPick isCand recent).filter (fun p => !p.atEnd) = [] := by
  rcases endPick_cases isCand recent with h | ⟨_, _, _, _, h⟩ <;> rw [h] <;> rfl

/-- Every pick (loop or end rule) passed the `candidates.contains` test. -/
theorem findLoop_isCand (isCand : UInt64 → Bool) (seg : Nat) (bs : List UInt64) (km : Kmer)
    (cl : Nat) (recent : List (Nat × UInt64)) (pos : Nat) :
    ∀ p ∈ findLoop isCand seg km cl recent pos bs, isCand p.kmer = true := by
  induction bs generalizing km cl recent pos with
  | nil => exact fun p hp => (mem_endPick hp).1
  | cons b bs ih =>
    rw [findLoop_cons]
    split
    · next h => exact List.forall_mem_cons.mpr ⟨h.2.2.2, ih _ _ _ _⟩
    · exact ih _ _ _ _

theorem mem_recentNext {km : Kmer} {recent : List (Nat × UInt64)} {pos : Nat} {b : UInt64}
    {r : Nat × UInt64} (h : r ∈ recentNext km recent pos b) :
    r ∈ recent ∨ (¬ b > 3 ∧ isFull (insert km b) = true ∧ r = (pos, data (insert km b))) := by
  unfold recentNext at h
  split at h
  · cases h
  · next hb =>
    split at h
    · next hf => exact (List.mem_cons.mp h).symm.imp_right fun h => ⟨hb, hf, h⟩
    · exact .inl h

/-- Shape and positions of the result, for any loop state.
    * Loop picks come first, then at most one end pick.
    * The `current_len` invariant: a loop pick at `p.pos` needs `current_len ≥ segment_size` there,
      and `current_len` is `cl` now and grows by one per symbol, so `pos + seg ≤ p.pos + cl`. A
      pick sets it to 0, so consecutive loop picks are `segment_size` apart.
    * The end pick is an entry of `recent_kmers` or lies at `pos` or later; a loop pick clears
      `recent_kmers`, so the end pick lies after every loop pick. -/
theorem findLoop_shape (isCand : UInt64 → Bool) (seg : Nat) (bs : List UInt64) (km : Kmer)
    (cl : Nat) (recent : List (Nat × UInt64)) (pos : Nat) :
    ∃ loopPicks endPicks : List Pick,
      findLoop isCand seg km cl recent pos bs = loopPicks ++ endPicks
      ∧ (∀ p ∈ loopPicks, p.atEnd = false ∧ pos + seg ≤ p.pos + cl ∧ p.pos < pos + bs.length)
      ∧ loopPicks.Pairwise (fun a b => a.pos + seg ≤ b.pos)
      ∧ endPicks.length ≤ 1
      ∧ (∀ e ∈ endPicks, e.atEnd = true
          ∧ ((e.pos, e.kmer) ∈ recent ∨ pos ≤ e.pos ∧ e.pos < pos + bs.length)
          ∧ ∀ p ∈ loopPicks, p.pos < e.pos) := by
  -- one symbol further: `pos + 1` with one symbol less to come, `cl + 1`
  have up : ∀ {q a n : Nat}, q < a + 1 + n → q < a + (n + 1) := fun h => Nat.add_right_comm _ 1 _ ▸ h
  have gap : ∀ {a s q : Nat}, a + 1 + s ≤ q + 1 → a + s ≤ q := fun {a s q} h =>
    Nat.le_of_succ_le_succ (show a + s + 1 ≤ q + 1 from Nat.add_right_comm a 1 s ▸ h)
  induction bs generalizing km cl recent pos with
  | nil =>
    refine ⟨[], endPick isCand recent, rfl, by simp, .nil, endPick_length_le _ _, fun e he => ?_⟩
    exact ⟨(mem_endPick he).2.1, .inl (mem_endPick he).2.2, by simp⟩
  | cons b bs ih =>
    rw [findLoop_cons, List.length_cons]
    split
    · next h =>
      obtain ⟨lp, ep, h1, h2, h3, h4, h5⟩ := ih (reset (insert km b)) 1 [] (pos + 1)
      refine ⟨⟨pos, data (insert km b), false⟩ :: lp, ep, by rw [h1]; rfl, ?_, ?_, h4, ?_⟩
      · refine List.forall_mem_cons.mpr ⟨⟨rfl, Nat.add_le_add_left h.2.2.1 pos,
          Nat.lt_add_of_pos_right (Nat.succ_pos _)⟩, fun p hp => ?_⟩
        obtain ⟨a, lo, hi⟩ := h2 p hp
        exact ⟨a, Nat.le_trans (gap lo) (Nat.le_add_right _ _), up hi⟩
      · exact List.pairwise_cons.mpr ⟨fun p hp => gap (h2 p hp).2.1, h3⟩
      · intro e he
        obtain ⟨a, hr | ⟨lo, hi⟩, c⟩ := h5 e he
        · cases hr
        · exact ⟨a, .inr ⟨Nat.le_of_succ_le lo, up hi⟩, List.forall_mem_cons.mpr ⟨lo, c⟩⟩
    · obtain ⟨lp, ep, h1, h2, h3, h4, h5⟩ :=
        ih (feed km [b]) (cl + 1) (recentNext km recent pos b) (pos + 1)
      refine ⟨lp, ep, h1, fun p hp => ?_, h3, h4, fun e he => ?_⟩
      · obtain ⟨a, lo, hi⟩ := h2 p hp
        exact ⟨a, gap lo, up hi⟩
      · obtain ⟨a, hr, c⟩ := h5 e he
        refine ⟨a, ?_, c⟩
        rcases hr with hr | ⟨lo, hi⟩
        · rcases mem_recentNext hr with hr | ⟨_, _, hr⟩
          · exact .inl hr
          · have he : e.pos = pos := congrArg Prod.fst hr
            exact .inr ⟨Nat.le_of_eq he.symm, he ▸ Nat.lt_add_of_pos_right (Nat.succ_pos _)⟩
        · exact .inr ⟨Nat.le_of_succ_le lo, up hi⟩

theorem feed_k (km : Kmer) (l : List UInt64) : (feed km l).k = km.k := by
  induction l generalizing km with
  | nil => rfl
  | cons x xs ih =>
    rw [feed]
    split
    · exact ih _
    · rw [ih, insert_k]

theorem findPicks_pos_lt (isCand : UInt64 → Bool) (k seg : Nat) (c : List UInt64) {p : Pick}
    (hp : p ∈ findPicks isCand k seg c) : p.pos < c.length := by
  obtain ⟨lp, ep, h, h2, _, _, h5⟩ := findLoop_shape isCand seg c (new k) seg [] 0
  rcases List.mem_append.mp (show p ∈ lp ++ ep from h ▸ hp) with hl | he
  · exact Nat.zero_add c.length ▸ (h2 p hl).2.2
  · rcases (h5 p he).2.1 with h | h
    · cases h
    · exact Nat.zero_add c.length ▸ h.2

/-- "At position `q` of `c` the finder's window — restarted after position `s - 1` — is full and
    its canonical value is `v`": the automaton of `Kmer` fed with `c[s..q]` is full with data `v`.
    (By C20's `slide_eq_scratch` this says that `c[q+1-k..q]` consists of bases, lies inside
    `c[s..q]`, and `v` is its canonical packing.) -/
def WindowAt (k : Nat) (c : List UInt64) (s q : Nat) (v : UInt64) : Prop :=
  s ≤ q + 1 ∧ isFull (feed (new k) ((c.take (q + 1)).drop s)) = true
    ∧ data (feed (new k) ((c.take (q + 1)).drop s)) = v

/-- `km` is the automaton restarted after position `s - 1` that has read `c[s..n)`. -/
def Tracks (k : Nat) (c : List UInt64) (s n : Nat) (km : Kmer) : Prop :=
  s ≤ n ∧ km = feed (new k) ((c.take n).drop s)

theorem drop_succ_of_drop_cons {α : Type} {c : List α} {n : Nat} {b : α} {bs : List α}
    (hd : c.drop n = b :: bs) : c.drop (n + 1) = bs := by
  rw [← List.drop_drop, hd]; rfl

theorem lt_length_of_drop_cons {α : Type} {c : List α} {n : Nat} {b : α} {bs : List α}
    (hd : c.drop n = b :: bs) : n < c.length :=
  Nat.lt_of_not_le fun h => by rw [List.drop_eq_nil_of_le h] at hd; cases hd

theorem Tracks.step {k : Nat} {c : List UInt64} {s n : Nat} {km : Kmer} {b : UInt64}
    {bs : List UInt64} (h : Tracks k c s n km) (hd : c.drop n = b :: bs) :
    Tracks k c s (n + 1) (feed km [b]) := by
  have hn := lt_length_of_drop_cons hd
  have e : c[n]? = some b := by rw [← List.head?_drop, hd]; rfl
  refine ⟨Nat.le_succ_of_le h.1, ?_⟩
  rw [List.take_add_one, e, List.drop_append_of_le_length, feed_append, ← h.2]
  · rfl
  · rw [List.length_take, Nat.min_eq_left (Nat.le_of_lt hn)]; exact h.1

/-- After a pick the automaton is reset: it restarts at the next position. -/
theorem Tracks.restart {k : Nat} {c : List UInt64} {s n : Nat} {km : Kmer}
    (h : Tracks k c s n km) : Tracks k c n n (reset km) := by
  refine ⟨Nat.le_refl _, ?_⟩
  rw [List.drop_eq_nil_of_le (List.length_take_le _ _)]
  show new km.k = new k
  rw [h.2, feed_k]; rfl

theorem Tracks.isFull_reset {k : Nat} {c : List UInt64} {s n : Nat} {km : Kmer}
    (h : Tracks k c s n km) (h1 : 1 ≤ k) : isFull (reset km) = false := by
  show (0 == km.k) = false
  rw [h.2, feed_k]
  exact beq_false_of_ne (Nat.ne_of_lt h1)

theorem Tracks.windowAt {k : Nat} {c : List UInt64} {s q : Nat} {km : Kmer}
    (h : Tracks k c s (q + 1) km) (v : UInt64) :
    WindowAt k c s q v ↔ isFull km = true ∧ data km = v := by
  unfold WindowAt
  rw [← h.2]
  exact and_iff_right h.1

/-- Picks chained by their windows: each pick's window is the automaton restarted right after the
    previous pick (or at `s` for the first). -/
def ChainW (k : Nat) (c : List UInt64) : Nat → List Pick → Prop
  | _, [] => True
  | s, p :: ps => s ≤ p.pos ∧ WindowAt k c s p.pos p.kmer ∧ ChainW k c (p.pos + 1) ps

theorem ChainW.le {k : Nat} {c : List UInt64} {P : List Pick} {s : Nat} (h : ChainW k c s P) :
    ∀ p ∈ P, s ≤ p.pos := by
  induction P generalizing s with
  | nil => exact fun _ hp => nomatch hp
  | cons p ps ih =>
    exact List.forall_mem_cons.mpr
      ⟨h.1, fun q hq => Nat.le_trans (Nat.le_succ_of_le h.1) (ih h.2.2 q hq)⟩

theorem ChainW.windowAt {k : Nat} {c : List UInt64} {P : List Pick} {s : Nat} (h : ChainW k c s P) :
    ∀ p ∈ P, ∃ s', WindowAt k c s' p.pos p.kmer := by
  induction P generalizing s with
  | nil => exact fun _ hp => nomatch hp
  | cons p ps ih => exact List.forall_mem_cons.mpr ⟨⟨s, h.2.1⟩, ih h.2.2⟩

theorem findLoop_chain (isCand : UInt64 → Bool) (k seg : Nat) (c : List UInt64)
    (bs : List UInt64) (n s : Nat) (km : Kmer) (cl : Nat) (recent : List (Nat × UInt64))
    (hd : c.drop n = bs) (ht : Tracks k c s n km)
    (hr : ∀ r ∈ recent, s ≤ r.1 ∧ WindowAt k c s r.1 r.2) :
    ChainW k c s (findLoop isCand seg km cl recent n bs) := by
  induction bs generalizing n s km cl recent with
  | nil =>
    rw [findLoop]
    rcases endPick_cases isCand recent with h | ⟨q, v, hm, _, h⟩ <;> rw [h]
    · trivial
    · exact ⟨(hr _ hm).1, (hr _ hm).2, trivial⟩
  | cons b bs ih =>
    have ht' := ht.step hd
    have hd' := drop_succ_of_drop_cons hd
    rw [findLoop_cons]
    split
    · next h =>
      rw [feed_singleton, if_neg h.1] at ht'
      exact ⟨ht.1, (ht'.windowAt _).mpr ⟨h.2.1, rfl⟩,
        ih (n + 1) (n + 1) _ 1 [] hd' ht'.restart (fun _ hr' => nomatch hr')⟩
    · refine ih (n + 1) s _ _ _ hd' ht' fun r hr' => ?_
      rcases mem_recentNext hr' with h | ⟨hb, hf, rfl⟩
      · exact hr r h
      · rw [feed_singleton, if_neg hb] at ht'
        exact ⟨ht.1, (ht'.windowAt _).mpr ⟨hf, rfl⟩⟩

theorem findPicks_chain (isCand : UInt64 → Bool) (k seg : Nat) (c : List UInt64) :
    ChainW k c 0 (findPicks isCand k seg c) :=
  findLoop_chain isCand k seg c c 0 0 (new k) seg [] rfl ⟨Nat.le_refl _, rfl⟩ (fun _ h => nomatch h)

end Ragc.Splitters
