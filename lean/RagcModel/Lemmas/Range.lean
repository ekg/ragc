import RagcModel.Model.Range
/-!
Specification-side definitions (`full`, `WF`) and the lemmas behind C07 (range and length queries
agree with full extraction): slices of lists (`slice`), the closed forms of the length loops, and
the invariant of the two passes of the range query (`PassesOK`), ending in `passes_full`.
-/
namespace Ragc.Range

/-- The fully extracted contig: first segment whole, every later one without its first `k` bytes. -/
def full (k : Nat) : List Seg → List Nat
  | [] => []
  | s :: rest => s.data ++ (rest.map (fun t => t.data.drop k)).flatten

/-- Well-formed reader view of a contig: every descriptor's `raw_length` is the decoded length,
and every segment after the first has at least `k` bytes. -/
def WF (k : Nat) (segs : List Seg) : Prop :=
  (∀ s ∈ segs, s.rawLen = s.data.length) ∧ (∀ s ∈ segs.tail, k ≤ s.data.length)

instance (k : Nat) (segs : List Seg) : Decidable (WF k segs) := by
  unfold WF; infer_instance

/-- The three-segment, `k = 2` contig used in the non-vacuity examples:
`full = [0,1,2,3,0] ++ [1,1,2,2] ++ [3,3]` (junctions at 5 and 9). -/
def exSegs : List Seg :=
  [⟨5, [0, 1, 2, 3, 0]⟩, ⟨6, [3, 0, 1, 1, 2, 2]⟩, ⟨4, [2, 2, 3, 3]⟩]

/-- A three-segment, `k = 3` contig with an IUPAC code (4) and an empty contribution in the
middle (`raw_length = k`): `full = [0,1,2,3] ++ [] ++ [4,0]`. -/
def exSegs3 : List Seg :=
  [⟨4, [0, 1, 2, 3]⟩, ⟨3, [1, 2, 3]⟩, ⟨5, [1, 2, 3, 4, 0]⟩]

/-- `full` in the literal form of the design document. -/
theorem full_eq (k : Nat) (segs : List Seg) :
    full k segs = (segs.head?.map Seg.data).getD [] ++ (segs.tail.map (fun t => t.data.drop k)).flatten := by
  cases segs <;> rfl

/-- The elements of `l` at positions `[a, b)`. -/
def slice {α : Type} (l : List α) (a b : Nat) : List α := (l.drop a).take (b - a)

theorem length_slice {α : Type} (l : List α) (a b : Nat) : (slice l a b).length = min b l.length - a := by
  unfold slice
  rw [List.length_take, List.length_drop, Nat.sub_min_sub_right]

theorem slice_clamp {α : Type} (l : List α) (a b : Nat) : slice l a (min b l.length) = slice l a b := by
  unfold slice
  rw [List.take_eq_take_iff, List.length_drop, Nat.sub_min_sub_right, Nat.sub_min_sub_right, Nat.min_assoc,
    Nat.min_self]

theorem slice_eq_nil {α : Type} (l : List α) (a b : Nat) (h : min b l.length ≤ a) : slice l a b = [] :=
  List.eq_nil_of_length_eq_zero (by rw [length_slice]; exact Nat.sub_eq_zero_of_le h)

/-- The slice of a concatenation: the part in `c`, then the part in `C` in `C`'s own coordinates. -/
theorem slice_append {α : Type} (c C : List α) (a b : Nat) :
    slice (c ++ C) a b = slice c a b ++ slice C (a - c.length) (b - c.length) := by
  unfold slice
  rw [List.drop_append, List.take_append, List.length_drop]
  congr 2
  -- `b - a - (c.length - a) = b - c.length - (a - c.length)`: one of the inner differences is `0`
  rcases Nat.le_total a c.length with h | h <;>
    rw [Nat.sub_eq_zero_of_le h, Nat.sub_zero, Nat.sub_sub_sub_cancel_right h]

theorem slice_adjacent {α : Type} (l : List α) (a b c : Nat) (hab : a ≤ b) (hbc : b ≤ c) :
    slice l a b ++ slice l b c = slice l a c := by
  obtain ⟨d, rfl⟩ := Nat.exists_eq_add_of_le hab
  obtain ⟨d', rfl⟩ := Nat.exists_eq_add_of_le hbc
  unfold slice
  rw [Nat.add_sub_cancel_left, Nat.add_sub_cancel_left, Nat.add_assoc, Nat.add_sub_cancel_left, ← List.drop_drop,
    List.take_add]

/-- The same with every end clamped to the length, as the range query returns them. -/
theorem slice_adjacent_clamped {α : Type} (l : List α) (a b c : Nat) (hab : a ≤ b) (hbc : b ≤ c) :
    slice l a (min b l.length) ++ slice l b (min c l.length) = slice l a (min c l.length) := by
  rw [slice_clamp, slice_clamp, slice_clamp, slice_adjacent l a b c hab hbc]

theorem complementBase_involutive (b : Nat) : complementBase (complementBase b) = b := by
  unfold complementBase
  by_cases h : b < 4
  · rw [if_pos h, if_pos (Nat.lt_succ_of_le (Nat.sub_le 3 b)), Nat.sub_sub_self (Nat.le_of_lt_succ h)]
  · rw [if_neg h, if_neg h]

theorem reconstructTail_eq (k : Nat) (rest : List Seg) (acc : List Nat)
    (h : ∀ s ∈ rest, k ≤ s.data.length) :
    reconstructTail k rest acc = some (acc ++ (rest.map (fun t => t.data.drop k)).flatten) := by
  induction rest generalizing acc with
  | nil => simp [reconstructTail]
  | cons s rest ih =>
    rw [reconstructTail, if_neg (Nat.not_lt.mpr (h s List.mem_cons_self)),
      ih _ (fun t ht => h t (List.mem_cons_of_mem _ ht)), List.map_cons, List.flatten_cons, List.append_assoc]

theorem reconstructTail_none (k : Nat) (rest : List Seg) (acc : List Nat)
    (h : ∃ s ∈ rest, s.data.length < k) : reconstructTail k rest acc = none := by
  induction rest generalizing acc with
  | nil => simp at h
  | cons s rest ih =>
    rw [reconstructTail]
    split
    · rfl
    · next hs =>
      obtain ⟨t, ht, hlt⟩ := h
      rcases List.mem_cons.mp ht with rfl | ht
      · exact absurd hlt hs
      · exact ih _ ⟨t, ht, hlt⟩

/-- `reconstruct_contig` returns `full` whenever no later segment is shorter than `k`. -/
theorem reconstruct_eq_full (k : Nat) (segs : List Seg)
    (h : ∀ s ∈ segs.tail, k ≤ s.data.length) : reconstruct k segs = some (full k segs) := by
  cases segs with
  | nil => rfl
  | cons s rest => exact reconstructTail_eq k rest s.data h

/-- The checked length loop past the first descriptor: it underflows iff some `raw_length` is below
`k`, and otherwise adds up the contributions. -/
theorem contigLengthLoop_succ (k i total : Nat) (lens : List Nat) :
    contigLengthLoop k (i + 1) total lens
      = if ∃ x ∈ lens, x < k then .underflow else .ok (total + (lens.map (· - k)).sum) := by
  induction lens generalizing i total with
  | nil => simp [contigLengthLoop]
  | cons x rest ih =>
    rw [contigLengthLoop, if_neg (Nat.succ_ne_zero i)]
    by_cases hx : x < k
    · simp [hx]
    · simp [hx, ih, Nat.add_assoc]

theorem wrappingSub_eq (a b : Nat) (h : b ≤ a) (ha : a < 2 ^ 64) : wrappingSub a b = a - b := by
  unfold wrappingSub
  rw [Nat.add_comm, Nat.add_sub_assoc h, Nat.add_mod_left, Nat.mod_eq_of_lt (Nat.lt_of_le_of_lt (Nat.sub_le a b) ha)]

theorem wrappingAdd_eq (a b : Nat) (h : a + b < 2 ^ 64) : wrappingAdd a b = a + b :=
  Nat.mod_eq_of_lt h

theorem contigLengthWrapLoop_succ (k i total : Nat) (lens : List Nat)
    (h : ∀ x ∈ lens, k ≤ x ∧ x < 2 ^ 64) (hsum : total + (lens.map (· - k)).sum < 2 ^ 64) :
    contigLengthWrapLoop k (i + 1) total lens = total + (lens.map (· - k)).sum := by
  induction lens generalizing i total with
  | nil => simp [contigLengthWrapLoop]
  | cons x rest ih =>
    have hx := h x List.mem_cons_self
    rw [List.map_cons, List.sum_cons, ← Nat.add_assoc] at hsum ⊢
    rw [contigLengthWrapLoop, if_neg (Nat.succ_ne_zero i), wrappingSub_eq x k hx.1 hx.2,
      wrappingAdd_eq _ _ (Nat.lt_of_le_of_lt (Nat.le_add_right _ _) hsum), ih _ _ (fun y hy => h y (List.mem_cons_of_mem _ hy)) hsum]

theorem full_length (k : Nat) (s : Seg) (rest : List Seg) (h : ∀ t ∈ s :: rest, t.rawLen = t.data.length) :
    (full k (s :: rest)).length = s.rawLen + ((rest.map Seg.rawLen).map (· - k)).sum := by
  rw [full, List.length_append, h s List.mem_cons_self]
  congr 1
  replace h : ∀ t ∈ rest, t.rawLen = t.data.length := fun t ht => h t (List.mem_cons_of_mem _ ht)
  induction rest with
  | nil => rfl
  | cons t rest ih =>
    simp only [List.map_cons, List.flatten_cons, List.length_append, List.length_drop, List.sum_cons]
    rw [ih (fun u hu => h u (List.mem_cons_of_mem _ hu)), h t List.mem_cons_self]

/-- The wrapping reading of `get_contig_length` returns the length of the fully extracted contig, for
64-bit `usize` (every `raw_length` and the contig length below `2^64`): no subtraction wraps. -/
theorem contigLengthWrapping_eq (k : Nat) (segs : List Seg) (h : WF k segs)
    (hraw : ∀ s ∈ segs, s.rawLen < 2 ^ 64) (hlen : (full k segs).length < 2 ^ 64) :
    contigLengthWrapping k (segs.map Seg.rawLen) = (full k segs).length := by
  cases segs with
  | nil => rfl
  | cons s rest =>
    rw [full_length k s rest h.1] at hlen ⊢
    rw [List.map_cons, contigLengthWrapping, contigLengthWrapLoop, if_pos rfl,
      wrappingAdd_eq 0 _ (by rw [Nat.zero_add]; exact hraw s List.mem_cons_self), Nat.zero_add s.rawLen,
      contigLengthWrapLoop_succ k 0 _ _ _ hlen]
    intro x hx
    obtain ⟨t, ht, rfl⟩ := List.mem_map.mp hx
    exact ⟨h.1 t (List.mem_cons_of_mem _ ht) ▸ h.2 t ht, hraw t (List.mem_cons_of_mem _ ht)⟩

/-- One entry `(pos, pos + c.length, idx)` of `segment_ranges` in the second pass, where `c` is the
contribution of `segs[idx]`, before the clamped end: whether the loop `continue`s, copies the
guarded slice or skips the copy, it goes on with `result` extended by the part of `c` inside
`[start, e)`. -/
theorem collectRange_cons (k : Nat) (segs : List Seg) (start e pos idx : Nat) (s : Seg)
    (rest : List (Nat × Nat × Nat)) (result : List Nat) (hs : segs[idx]? = some s)
    (hk : (if idx = 0 then 0 else k) ≤ s.data.length) (hp : pos < e) :
    collectRange k segs start e
        ((pos, pos + (s.data.drop (if idx = 0 then 0 else k)).length, idx) :: rest) result
      = collectRange k segs start e rest
          (result ++ slice (s.data.drop (if idx = 0 then 0 else k)) (start - pos) (e - pos)) := by
  rw [collectRange]
  simp only [hs, Nat.add_sub_cancel_left, Nat.add_sub_add_left, Nat.add_lt_add_iff_left, ← List.drop_drop]
  generalize (if idx = 0 then 0 else k) = skip at hk ⊢
  generalize hc : s.data.drop skip = c
  have hn : skip + c.length = s.data.length := by rw [← hc, List.length_drop, Nat.add_sub_of_le hk]
  have hB : skip + min (e - pos) c.length ≤ s.data.length :=
    hn ▸ Nat.add_le_add_left (Nat.min_le_right _ _) _
  by_cases hA : start - pos < min (e - pos) c.length
  · have h1 : ¬ pos + c.length ≤ start := fun h =>
      Nat.lt_irrefl _ (Nat.lt_of_lt_of_le hA (Nat.le_trans (Nat.min_le_right _ _) (Nat.le_sub_of_add_le' h)))
    rw [if_neg h1, if_neg (Nat.not_le.mpr hp), if_pos ⟨hA, hB⟩, ← slice_clamp c _ (e - pos)]
    rfl
  · rw [slice_eq_nil c _ _ (Nat.not_lt.mp hA), List.append_nil, if_neg (Nat.not_le.mpr hp),
      if_neg (fun h : _ ∧ _ => hA h.1), ite_self]

/-- What the two passes of `get_contig_range` do from the loop state `i = pre.length` (segments
`pre` already passed), `contig_pos = pos`, on remaining segments `rest` that contribute the bases `C`:
the first pass succeeds and reports the total `pos + C.length`, and the second pass over the ranges
it produced appends to `result` exactly the part of `C` (which starts at `pos`) inside `[start, e)`. -/
def PassesOK (k : Nat) (pre : List Seg) (pos : Nat) (rest : List Seg) (C : List Nat) : Prop :=
  ∃ rs, segmentRanges k pre.length pos rest = some (rs, pos + C.length) ∧
    ∀ start e result, collectRange k (pre ++ rest) start e rs result
      = some (result ++ slice C (start - pos) (e - pos))

theorem passesOK_nil (k : Nat) (pre : List Seg) (pos : Nat) : PassesOK k pre pos [] [] :=
  ⟨[], rfl, fun _ _ _ => by simp [collectRange, slice]⟩

theorem passesOK_cons (k : Nat) (pre : List Seg) (pos : Nat) (s : Seg) (rest : List Seg) (C : List Nat)
    (skip : Nat) (hskip : (if pre.length = 0 then 0 else k) = skip)
    (h1 : s.rawLen = s.data.length) (h2 : skip ≤ s.data.length)
    (ih : PassesOK k (pre ++ [s]) (pos + (s.data.drop skip).length) rest C) :
    PassesOK k pre pos (s :: rest) (s.data.drop skip ++ C) := by
  subst hskip
  obtain ⟨rs, hrs, hcol⟩ := ih
  rw [List.length_append, List.length_singleton] at hrs
  rw [List.append_assoc, List.singleton_append] at hcol
  refine ⟨(pos, pos + (s.data.drop (if pre.length = 0 then 0 else k)).length, pre.length) :: rs, ?_, ?_⟩
  · -- the contribution length as the first pass computes it
    have hc : (if pre.length = 0 then some s.rawLen else checkedSub s.rawLen k)
        = some (s.data.drop (if pre.length = 0 then 0 else k)).length := by
      rw [List.length_drop, h1]
      split
      · rfl
      · rw [if_neg ‹_›] at h2; simp [checkedSub, h2]
    rw [segmentRanges, hc]
    simp only [hrs, List.length_append, Nat.add_assoc]
  · intro start e result
    by_cases hp : pos < e
    · rw [collectRange_cons k _ start e pos _ s rs result (by simp) h2 hp, hcol, List.append_assoc, slice_append,
        Nat.sub_sub, Nat.sub_sub]
    · -- `break`, or `continue` to the end: nothing from `pos` on lies before `e`
      have he : e ≤ pos := Nat.not_lt.mp hp
      rw [collectRange, hcol, if_pos he, Nat.sub_eq_zero_of_le he,
        Nat.sub_eq_zero_of_le (Nat.le_trans he (Nat.le_add_right _ _))]
      simp [slice]

/-- From the second segment on every segment contributes its data without the first `k` bytes. -/
theorem passesOK_later (k : Nat) (rest : List Seg) :
    ∀ (pre : List Seg) (pos : Nat), pre ≠ [] → (∀ s ∈ rest, s.rawLen = s.data.length ∧ k ≤ s.data.length) →
      PassesOK k pre pos rest (rest.map (fun t => t.data.drop k)).flatten := by
  induction rest with
  | nil => intro pre pos _ _; exact passesOK_nil k pre pos
  | cons s rest ih =>
    intro pre pos hpre h
    exact passesOK_cons k pre pos s rest _ k (if_neg (mt List.eq_nil_of_length_eq_zero hpre))
      (h s List.mem_cons_self).1 (h s List.mem_cons_self).2
      (ih (pre ++ [s]) _ (by simp) (fun t ht => h t (List.mem_cons_of_mem _ ht)))

/-- Both passes on a well-formed contig: the total is the length of `full`, and the second pass
collects the bases `[start, e)` of `full`. -/
theorem passes_full (k : Nat) (segs : List Seg) (h : WF k segs) :
    ∃ rs, segmentRanges k 0 0 segs = some (rs, (full k segs).length) ∧
      ∀ start e, collectRange k segs start e rs [] = some (slice (full k segs) start e) := by
  have hp : PassesOK k [] 0 segs (full k segs) := by
    cases segs with
    | nil => exact passesOK_nil k [] 0
    | cons s rest =>
      exact passesOK_cons k [] 0 s rest _ 0 rfl (h.1 s List.mem_cons_self) (Nat.zero_le _)
        (passesOK_later k rest [s] _ (List.cons_ne_nil _ _)
          (fun t ht => ⟨h.1 t (List.mem_cons_of_mem _ ht), h.2 t ht⟩))
  obtain ⟨rs, hrs, hcol⟩ := hp
  exact ⟨rs, by rw [← Nat.zero_add (full k segs).length]; exact hrs, fun start e => hcol start e []⟩

end Ragc.Range
