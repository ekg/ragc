import RagcModel.Model.CollVarint
/-! Round-trip lemmas for the prefix varint and the NUL-terminated strings (C03). -/
namespace Ragc.CollVarint

/-- Big-endian bytes of a number `m`, with a prefix `p` added to the top byte. -/
theorem be2 (p m : Nat) : (p + m / 256) * 256 + m % 256 = p * 256 + m := by
  rw [Nat.add_mul, Nat.add_assoc, Nat.div_add_mod']

/-- One more byte: what stands for `m / 256` moves up one position, the low byte of `m` follows. -/
theorem be_step {p m k V : Nat} (h : V = p * k + m / 256) :
    V * 256 + m % 256 = p * (k * 256) + m := by
  rw [h, be2, Nat.mul_assoc]

theorem be3 (p m : Nat) :
    (p + m / 65536) * 65536 + m / 256 % 256 * 256 + m % 256 = p * 65536 + m := by
  have h := be2 p (m / 256)
  rw [Nat.div_div_eq_div_mul] at h
  have := be_step h
  rwa [Nat.add_mul, Nat.mul_assoc] at this

theorem be4 (p m : Nat) :
    (p + m / 16777216) * 16777216 + m / 65536 % 256 * 65536 + m / 256 % 256 * 256 + m % 256
      = p * 16777216 + m := by
  have h := be3 p (m / 256)
  rw [Nat.div_div_eq_div_mul, Nat.div_div_eq_div_mul] at h
  have := be_step h
  rwa [Nat.add_mul, Nat.add_mul, Nat.mul_assoc, Nat.mul_assoc] at this

/-- The decoder's value: the class prefix `P` of the head byte is taken off again. -/
theorem strip {V P W : Nat} (h : V = P + W) (t : Nat) : V + t - P = t + W := by
  subst h; rw [Nat.add_assoc, Nat.add_sub_cancel_left, Nat.add_comm]

/-- The five forms of `encode` as a case principle: what holds of every form holds of `encode n`;
    `m` is what the encoder splits into bytes. -/
theorem encode_cases {C : Nat → List Nat → Prop}
    (h1 : ∀ n, n < 128 → C n [n])
    (h2 : ∀ m, m < 16384 → C (128 + m) [0x80 + m / 256, m % 256])
    (h3 : ∀ m, m < 2097152 → C (16512 + m) [0xC0 + m / 65536, m / 256 % 256, m % 256])
    (h4 : ∀ m, m < 268435456 →
      C (2113664 + m) [0xE0 + m / 16777216, m / 65536 % 256, m / 256 % 256, m % 256])
    (h5 : ∀ m, C (270549120 + m) [0xF0, m / 16777216 % 256, m / 65536 % 256, m / 256 % 256, m % 256])
    (n : Nat) : C n (encode n) := by
  rw [encode]
  by_cases c1 : n < 128
  · rw [if_pos c1]; exact h1 n c1
  by_cases c2 : n < 16512
  · obtain ⟨m, rfl⟩ := Nat.exists_eq_add_of_le (Nat.le_of_not_lt c1)
    rw [if_neg c1, if_pos c2]
    simpa only [Nat.add_sub_cancel_left] using h2 m (Nat.lt_of_add_lt_add_left (n := 128) c2)
  by_cases c3 : n < 2113664
  · obtain ⟨m, rfl⟩ := Nat.exists_eq_add_of_le (Nat.le_of_not_lt c2)
    rw [if_neg c1, if_neg c2, if_pos c3]
    simpa only [Nat.add_sub_cancel_left] using h3 m (Nat.lt_of_add_lt_add_left (n := 16512) c3)
  by_cases c4 : n < 270549120
  · obtain ⟨m, rfl⟩ := Nat.exists_eq_add_of_le (Nat.le_of_not_lt c3)
    rw [if_neg c1, if_neg c2, if_neg c3, if_pos c4]
    simpa only [Nat.add_sub_cancel_left] using h4 m (Nat.lt_of_add_lt_add_left (n := 2113664) c4)
  · obtain ⟨m, rfl⟩ := Nat.exists_eq_add_of_le (Nat.le_of_not_lt c4)
    rw [if_neg c1, if_neg c2, if_neg c3, if_neg c4]
    simpa only [Nat.add_sub_cancel_left] using h5 m

theorem not_add_lt {a t : Nat} (h : a ≤ t) (m : Nat) : ¬ t + m < a :=
  Nat.not_lt.mpr (Nat.le_trans h (Nat.le_add_right t m))

/-! The decoder chooses the form by the first byte alone: `P + a` with `a` below the span of the
class with prefix `P`. -/

theorem decode_form1 {b0 : Nat} (h : b0 < 0x80) (r : List Nat) : decode (b0 :: r) = some (b0, r) :=
  if_pos h

theorem decode_form2 {a : Nat} (h : a < 64) (r : List Nat) :
    decode ((0x80 + a) :: r) = match r with
      | b1 :: r => some ((0x80 + a) * 256 + b1 + 128 - 0x8000, r)
      | _ => none := by
  show (if _ then _ else _) = _
  rw [if_neg (not_add_lt (Nat.le_refl _) a), if_pos (Nat.add_lt_add_left h 0x80)]
  rfl

theorem decode_form3 {a : Nat} (h : a < 32) (r : List Nat) :
    decode ((0xC0 + a) :: r) = match r with
      | b1 :: b2 :: r => some ((0xC0 + a) * 65536 + b1 * 256 + b2 + 16512 - 0xC00000, r)
      | _ => none := by
  show (if _ then _ else _) = _
  rw [if_neg (not_add_lt (by decide) a), if_neg (not_add_lt (Nat.le_refl _) a),
    if_pos (Nat.add_lt_add_left h 0xC0)]
  rfl

theorem decode_form4 {a : Nat} (h : a < 16) (r : List Nat) :
    decode ((0xE0 + a) :: r) = match r with
      | b1 :: b2 :: b3 :: r =>
        some ((0xE0 + a) * 16777216 + b1 * 65536 + b2 * 256 + b3 + 2113664 - 0xE0000000, r)
      | _ => none := by
  show (if _ then _ else _) = _
  rw [if_neg (not_add_lt (by decide) a), if_neg (not_add_lt (by decide) a),
    if_neg (not_add_lt (Nat.le_refl _) a), if_pos (Nat.add_lt_add_left h 0xE0)]
  rfl

theorem decode_form5 (a : Nat) (r : List Nat) :
    decode ((0xF0 + a) :: r) = match r with
      | b1 :: b2 :: b3 :: b4 :: r =>
        some ((b1 * 16777216 + b2 * 65536 + b3 * 256 + b4 + 270549120) % 4294967296, r)
      | _ => none := by
  show (if _ then _ else _) = _
  rw [if_neg (not_add_lt (by decide) a), if_neg (not_add_lt (by decide) a),
    if_neg (not_add_lt (by decide) a), if_neg (not_add_lt (Nat.le_refl _) a)]
  rfl

theorem decode_encode (n : Nat) (h : n < 4294967296) (r : List Nat) :
    decode (encode n ++ r) = some (n, r) := by
  refine encode_cases (C := fun n e => n < 4294967296 → decode (e ++ r) = some (n, r))
    (fun n h1 _ => decode_form1 h1 r)
    (fun m hm _ => (decode_form2 (Nat.div_lt_of_lt_mul hm) _).trans
      (congrArg (fun v => some (v, r)) (strip (be2 0x80 m) 128)))
    (fun m hm _ => (decode_form3 (Nat.div_lt_of_lt_mul hm) _).trans
      (congrArg (fun v => some (v, r)) (strip (be3 0xC0 m) 16512)))
    (fun m hm _ => (decode_form4 (Nat.div_lt_of_lt_mul hm) _).trans
      (congrArg (fun v => some (v, r)) (strip (be4 0xE0 m) 2113664)))
    (fun m h => (decode_form5 0 _).trans (congrArg (fun v => some (v, r)) ?_)) n h
  -- 5-byte form: the top digit is a byte because `m < 2^32`, and nothing wraps
  have hm : m < 16777216 * 256 := Nat.lt_of_le_of_lt (Nat.le_add_left _ _) h
  have hb := be4 0 m
  rw [Nat.zero_add, Nat.zero_mul, Nat.zero_add] at hb
  rw [Nat.mod_eq_of_lt (Nat.div_lt_of_lt_mul hm), hb, Nat.add_comm]
  exact Nat.mod_eq_of_lt h

/-- Also beyond `u32`: the 5-byte form cuts every digit to a byte. -/
theorem encode_lt_256 (n : Nat) : ∀ b ∈ encode n, b < 256 := by
  have hb (x : Nat) : x % 256 < 256 := Nat.mod_lt x (by decide)
  refine encode_cases (C := fun _ e => ∀ b ∈ e, b < 256) (fun m hm => ?_) (fun m hm => ?_)
    (fun m hm => ?_) (fun m hm => ?_) (fun m => ?_) n
  all_goals
    simp only [List.forall_mem_cons, List.not_mem_nil, false_imp_iff, implies_true, and_true, hb]
  · exact Nat.lt_trans hm (by decide)
  · exact Nat.lt_of_lt_of_le (Nat.add_lt_add_left (Nat.div_lt_of_lt_mul (k := 64) hm) _) (by decide)
  · exact Nat.lt_of_lt_of_le (Nat.add_lt_add_left (Nat.div_lt_of_lt_mul (k := 32) hm) _) (by decide)
  · exact Nat.lt_of_lt_of_le (Nat.add_lt_add_left (Nat.div_lt_of_lt_mul (k := 16) hm) _) (by decide)
  · decide

/-- Every byte produced by `encode` is a byte. -/
theorem encode_bytes (n : Nat) (h : n < 4294967296) : ∀ b ∈ encode n, b < 256 := encode_lt_256 n

theorem encode_ne_nil (n : Nat) : encode n ≠ [] :=
  encode_cases (C := fun _ e => e ≠ []) (fun _ _ => List.cons_ne_nil _ _)
    (fun _ _ => List.cons_ne_nil _ _) (fun _ _ => List.cons_ne_nil _ _)
    (fun _ _ => List.cons_ne_nil _ _) (fun _ => List.cons_ne_nil _ _) n

/-- Every proper prefix of an encoding is rejected (the `bail!`s on truncated input): it is
    empty, or starts with the head byte of a form whose tail it cuts short. -/
theorem decode_truncated (n m : Nat) (hm : m < (encode n).length) :
    decode ((encode n).take m) = none := by
  refine encode_cases (C := fun _ e => ∀ m, m < e.length → decode (e.take m) = none)
    ?_ ?_ ?_ ?_ ?_ n m hm
  · intro n _ m hm
    rcases m with _ | m
    · rfl
    · exact absurd hm (Nat.not_lt_of_le (Nat.le_add_left 1 m))
  · intro k hk m hm
    have hf := decode_form2 (a := k / 256) (Nat.div_lt_of_lt_mul hk)
    rcases m with _ | _ | m
    · rfl
    · exact hf _
    · exact absurd hm (Nat.not_lt_of_le (Nat.le_add_left 2 m))
  · intro k hk m hm
    have hf := decode_form3 (a := k / 65536) (Nat.div_lt_of_lt_mul hk)
    rcases m with _ | _ | _ | m
    · rfl
    · exact hf _
    · exact hf _
    · exact absurd hm (Nat.not_lt_of_le (Nat.le_add_left 3 m))
  · intro k hk m hm
    have hf := decode_form4 (a := k / 16777216) (Nat.div_lt_of_lt_mul hk)
    rcases m with _ | _ | _ | _ | m
    · rfl
    · exact hf _
    · exact hf _
    · exact hf _
    · exact absurd hm (Nat.not_lt_of_le (Nat.le_add_left 4 m))
  · intro k m hm
    have hf := decode_form5 0
    rcases m with _ | _ | _ | _ | _ | m
    · rfl
    · exact hf _
    · exact hf _
    · exact hf _
    · exact hf _
    · exact absurd hm (Nat.not_lt_of_le (Nat.le_add_left 5 m))

theorem splitNul_append (s r : List Nat) (h : ∀ b ∈ s, b ≠ 0) :
    splitNul (s ++ 0 :: r) = some (s, r) := by
  induction s with
  | nil => rfl
  | cons b s ih =>
    have ⟨hb, hs⟩ := List.forall_mem_cons.mp h
    rw [List.cons_append, splitNul, if_neg hb, ih hs]

theorem utf8Valid_ascii (s : List Nat) (h : ∀ b ∈ s, b < 128) : utf8Valid s = true := by
  induction s with
  | nil => unfold utf8Valid; rfl
  | cons b s ih =>
    have ⟨hb, hs⟩ := List.forall_mem_cons.mp h
    unfold utf8Valid
    exact (if_pos hb).trans (ih hs)

theorem utf8Lossy_ascii (s : List Nat) (h : ∀ b ∈ s, b < 128) : utf8Lossy s = s := by
  induction s with
  | nil => unfold utf8Lossy; rfl
  | cons b s ih =>
    have ⟨hb, hs⟩ := List.forall_mem_cons.mp h
    unfold utf8Lossy
    exact (if_pos hb).trans (congrArg (b :: ·) (ih hs))

theorem decodeString_encodeString (s r : List Nat) (h : ∀ b ∈ s, 1 ≤ b ∧ b ≤ 127) :
    decodeString (encodeString s ++ r) = some (s, r) := by
  have h0 : ∀ b ∈ s, b ≠ 0 := fun b hb => Nat.ne_of_gt (h b hb).1
  have h1 : ∀ b ∈ s, b < 128 := fun b hb => Nat.lt_succ_of_le (h b hb).2
  rw [decodeString, encodeString, List.append_assoc, List.singleton_append, splitNul_append s r h0]
  exact if_pos (utf8Valid_ascii s h1)

end Ragc.CollVarint
