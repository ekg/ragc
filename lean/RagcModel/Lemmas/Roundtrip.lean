import RagcModel.Model.Packs
import RagcModel.Model.SegCompress
import RagcModel.Model.LzDiff
import RagcModel.Model.Agc3
import RagcModel.Lemmas.Segment
import RagcModel.Lemmas.Range
import RagcModel.Lemmas.Packs
import RagcModel.Lemmas.ListFacts
/-!
Helper lemmas for C01 (`Props/C01.lean`): tilings under splitting and under `map`, the
orientation bookkeeping of split halves, membership facts. At the end, the vocabulary of
`Props.C01.contig_roundtrip` and `storage_form_roundtrip`: a list of split decisions applied to a tiling
(`applySplits`), the storage forms of a piece (`Form`) and `storeRead` / `readBack`.
-/
namespace Ragc.Roundtrip
open Ragc.Segment Ragc.Range Ragc.Packs

/-- A slice `p = c[o .. o + |p|)` cut into `p[..s+k]` and `p[s..]`: the first half is the slice
`c[o .. o+s+k)`, and the second half continues a tiling whose previous piece ended at `o + s + k`
exactly as `p`'s successors continued `p`. -/
theorem split_slice {α : Type} (k : Nat) (c : List α) (o s : Nat) (p : List α) (post : List (List α))
    (hs : s + k ≤ p.length) (hp : p = (c.drop o).take p.length) (hle : o + p.length ≤ c.length)
    (hrest : TilesFrom k c (o + p.length) post) :
    (p.take (s + k)).length = s + k ∧ p.take (s + k) = (c.drop o).take (s + k) ∧
      TilesFrom k c (o + (s + k)) (p.drop s :: post) := by
  have hlt : (p.take (s + k)).length = s + k := by rw [List.length_take]; exact Nat.min_eq_left hs
  have ho : o + (s + k) - k = o + s := by rw [← Nat.add_assoc, Nat.add_sub_cancel]
  have hsl : s ≤ p.length := Nat.le_trans (Nat.le_add_right s k) hs
  have hend : o + s + (p.length - s) = o + p.length := by
    rw [Nat.add_assoc, Nat.add_sub_cancel' hsl]
  refine ⟨hlt, (congrArg (List.take (s + k)) hp).trans ?_, ?_⟩
  · rw [List.take_take, Nat.min_eq_left hs]
  · rw [TilesFrom, List.length_drop, ho, hend]
    refine ⟨Nat.le_trans (Nat.le_add_left k s) (Nat.le_add_left _ o), Nat.le_sub_of_add_le' hs, hle,
      (congrArg (List.drop s) hp).trans ?_, hrest⟩
    rw [List.drop_take, List.drop_drop]

theorem tilesFrom_split {α : Type} (k : Nat) (c : List α) (s : Nat) (p : List α) (post : List (List α))
    (hs : s + k ≤ p.length) :
    ∀ (pre : List (List α)) (e : Nat), TilesFrom k c e (pre ++ p :: post) →
      TilesFrom k c e (pre ++ p.take (s + k) :: p.drop s :: post) := by
  intro pre
  induction pre with
  | nil =>
    intro e ⟨hke, _, hle, hp, hrest⟩
    obtain ⟨hlt, htake, hdrop⟩ := split_slice k c (e - k) s p post hs hp hle hrest
    rw [List.nil_append, TilesFrom, hlt]
    exact ⟨hke, Nat.le_add_left k s, Nat.le_trans (Nat.add_le_add_left hs _) hle, htake, hdrop⟩
  | cons q pre ih =>
    intro e ⟨h1, h2, h3, h4, hrest⟩
    exact ⟨h1, h2, h3, h4, ih _ hrest⟩

/-- Replacing a piece of a tiling by its two `k`-overlapping halves (`p[..s+k]`, `p[s..]`) gives
a tiling again, wherever the piece sits. -/
theorem tiles_split {α : Type} (k : Nat) (c : List α) (s : Nat) (p : List α)
    (pre post : List (List α)) (hs : s + k ≤ p.length) (h : Tiles k c (pre ++ p :: post)) :
    Tiles k c (pre ++ p.take (s + k) :: p.drop s :: post) := by
  cases pre with
  | nil =>
    obtain ⟨hle, hp, hrest⟩ := h
    obtain ⟨hlt, htake, hdrop⟩ := split_slice k c 0 s p post hs hp
      (by rw [Nat.zero_add]; exact hle) (by rw [Nat.zero_add]; exact hrest)
    rw [Nat.zero_add] at hdrop
    rw [List.nil_append, Tiles, hlt]
    exact ⟨Nat.le_trans hs hle, htake, hdrop⟩
  | cons q pre =>
    obtain ⟨h1, h2, hrest⟩ := h
    exact ⟨h1, h2, tilesFrom_split k c s p post hs pre _ hrest⟩

theorem tilesFrom_map {α β : Type} (f : α → β) (k : Nat) (c : List α) :
    ∀ (ps : List (List α)) (e : Nat), TilesFrom k c e ps →
      TilesFrom k (c.map f) e (ps.map (List.map f)) := by
  intro ps
  induction ps with
  | nil => intro e h; simpa [TilesFrom] using h
  | cons p ps ih =>
    intro e h
    simp only [List.map_cons, TilesFrom, List.length_map] at h ⊢
    obtain ⟨h1, h2, h3, h4, hrest⟩ := h
    refine ⟨h1, h2, h3, ?_, ih _ hrest⟩
    conv => lhs; rw [h4]
    rw [List.map_take, List.map_drop]

theorem tiles_map {α β : Type} (f : α → β) (k : Nat) (c : List α) (ps : List (List α))
    (h : Tiles k c ps) : Tiles k (c.map f) (ps.map (List.map f)) := by
  cases ps with
  | nil => exact h
  | cons p ps =>
    simp only [List.map_cons, Tiles, List.length_map] at h ⊢
    obtain ⟨h1, h2, hrest⟩ := h
    refine ⟨h1, ?_, tilesFrom_map f k c ps _ hrest⟩
    conv => lhs; rw [h2]
    rw [List.map_take]

theorem tilesFrom_mem {α : Type} (k : Nat) (c : List α) :
    ∀ (ps : List (List α)) (e : Nat), TilesFrom k c e ps → ∀ p ∈ ps, ∀ x ∈ p, x ∈ c := by
  intro ps
  induction ps with
  | nil => intro e _ p hp; cases hp
  | cons q ps ih =>
    intro e h p hp x hx
    obtain ⟨_, _, _, h4, hrest⟩ := h
    rcases List.mem_cons.mp hp with rfl | hp
    · rw [h4] at hx
      exact List.mem_of_mem_drop (List.mem_of_mem_take hx)
    · exact ih _ hrest p hp x hx

theorem tiles_mem {α : Type} (k : Nat) (c : List α) (ps : List (List α)) (h : Tiles k c ps) :
    ∀ p ∈ ps, ∀ x ∈ p, x ∈ c := by
  cases ps with
  | nil => intro p hp; cases hp
  | cons q ps =>
    obtain ⟨_, h2, hrest⟩ := h
    intro p hp x hx
    rcases List.mem_cons.mp hp with rfl | hp
    · rw [h2] at hx
      exact List.mem_of_mem_take hx
    · exact tilesFrom_mem k c ps _ hrest p hp x hx

/-- `rc^f`: the stored form of a piece with orientation flag `f`, and also what the reader does
with a stored segment whose flag is `f`. -/
def orient (f : Bool) (d : List Nat) : List Nat := if f then reverseComplementSegment d else d

theorem rc_involutive (s : List Nat) : reverseComplementSegment (reverseComplementSegment s) = s := by
  unfold reverseComplementSegment
  rw [← List.map_reverse, List.reverse_reverse, List.map_map]
  exact (List.map_congr_left fun b _ => complementBase_involutive b).trans (List.map_id _)

theorem orient_involutive (f : Bool) (d : List Nat) : orient f (orient f d) = d := by
  cases f
  · rfl
  · exact rc_involutive d

theorem writer_rc_eq (s : List Nat) : reverseComplementSequence s = reverseComplementSegment s := rfl

theorem orient_length (f : Bool) (d : List Nat) : (orient f d).length = d.length := by
  cases f <;> simp [orient, reverseComplementSegment]

theorem orient_mem_le (f : Bool) (d : List Nat) (n : Nat) (hn : 3 ≤ n) (h : ∀ x ∈ d, x ≤ n) :
    ∀ x ∈ orient f d, x ≤ n := by
  cases f
  · exact h
  · intro x hx
    simp only [orient, if_true, reverseComplementSegment, List.mem_map, List.mem_reverse] at hx
    obtain ⟨y, hy, rfl⟩ := hx
    unfold complementBase
    split
    · exact Nat.le_trans (Nat.sub_le 3 y) hn
    · exact h y hy

theorem rc_drop (d : List Nat) (n : Nat) :
    (reverseComplementSegment d).drop n = reverseComplementSegment (d.take (d.length - n)) := by
  unfold reverseComplementSegment
  rw [← List.map_drop, List.drop_reverse]

theorem rc_take (d : List Nat) (n : Nat) :
    (reverseComplementSegment d).take n = reverseComplementSegment (d.drop (d.length - n)) := by
  unfold reverseComplementSegment
  rw [← List.map_take, List.take_reverse]

/-- re-orienting a half whose flag differs from the orientation it is held in -/
theorem orient_bne (f g : Bool) (x : List Nat) : orient (f != g) (orient g x) = orient f x := by
  cases f <;> cases g <;> first | rfl | exact rc_involutive x

theorem splitStored_eq (d : List Nat) (pos k : Nat) (sr lf rf : Bool) :
    splitStored d pos k sr lf rf =
      if pos - (k + 1) / 2 + k ≤ d.length then
        some (⟨if sr then 1 else 0, orient (lf != sr) (d.take (pos - (k + 1) / 2 + k)), lf⟩,
          ⟨if sr then 0 else 1, orient (rf != sr) (d.drop (pos - (k + 1) / 2)), rf⟩)
      else none := by
  unfold splitStored splitSegmentAtPosition
  by_cases hle : pos - (k + 1) / 2 + k ≤ d.length
  · simp only [hle, if_true]; rfl
  · simp only [hle, if_false]

/-- The split branch, as the reader sees it: the two buffered halves, each with its flag undone and
ordered by part number, are the two `k`-overlapping logical halves of the piece — for either value of
`should_reverse` and all four flag combinations. `p` is the piece in contig orientation; the writer
holds `orient sr p`. -/
theorem splitStored_spec (p : List Nat) (pos k : Nat) (sr lf rf : Bool) (h1 h2 : Half)
    (h : splitStored (orient sr p) pos k sr lf rf = some (h1, h2)) :
    ∃ s, s + k ≤ p.length ∧ readHalves (h1, h2) = [p.take (s + k), p.drop s] := by
  -- a half stored as `orient f x` with flag `f` reads back as `x`
  have hread : ∀ (f : Bool) (x y : List Nat), y = orient f x → orient f y = x :=
    fun f x y hy => hy ▸ orient_involutive f x
  have hpair : ∀ {a a' b b' : List Nat}, a' = a → b' = b → [a', b'] = [a, b] := fun ha hb => by rw [ha, hb]
  rw [splitStored_eq, orient_length] at h
  generalize pos - (k + 1) / 2 = s0 at h
  split at h
  · rename_i hle
    obtain ⟨rfl, rfl⟩ := Prod.mk.inj (Option.some.inj h)
    cases sr with
    | false =>
      exact ⟨s0, hle, hpair (hread lf _ _ (orient_bne lf false _)) (hread rf _ _ (orient_bne rf false _))⟩
    | true =>
      -- held reversed: the left stored half is the right logical half and vice versa, and the part
      -- numbers are swapped, so the reader takes the second stored half first
      have hx : p.length - (s0 + k) + k = p.length - s0 := by
        rw [Nat.sub_add_eq, Nat.sub_add_cancel (Nat.le_sub_of_add_le' hle)]
      refine ⟨p.length - (s0 + k), hx ▸ Nat.sub_le _ _, hpair (hread rf _ _ ?_) (hread lf _ _ ?_)⟩
      · show orient (rf != true) ((reverseComplementSegment p).drop s0) = _
        rw [rc_drop, hx]
        exact orient_bne rf true _
      · show orient (lf != true) ((reverseComplementSegment p).take (s0 + k)) = _
        rw [rc_take]
        exact orient_bne lf true _
  · cases h

theorem full_eq_reassemble (k : Nat) (ps : List (List Nat)) :
    full k (ps.map fun d => (⟨d.length, d⟩ : Seg)) = reassemble k ps := by
  cases ps with
  | nil => rfl
  | cons p ps => simp [full, reassemble, List.map_map, Function.comp_def]

/-- One split decision `(i, s)`: piece `i` is replaced by its halves `p[..s+k]`, `p[s..]` when
`s + k ≤ |p|` (the range in which `split_segment_at_position` does not panic); any other decision
leaves the pieces unchanged. -/
def applySplit (k : Nat) (ps : List (List Nat)) (d : Nat × Nat) : List (List Nat) :=
  match ps[d.1]? with
  | some p =>
    if d.2 + k ≤ p.length then ps.take d.1 ++ p.take (d.2 + k) :: p.drop d.2 :: ps.drop (d.1 + 1)
    else ps
  | none => ps

def applySplits (k : Nat) (ps : List (List Nat)) (ds : List (Nat × Nat)) : List (List Nat) :=
  ds.foldl (applySplit k) ps

theorem applySplit_tiles (k : Nat) (c : List Nat) (ps : List (List Nat)) (d : Nat × Nat)
    (h : Tiles k c ps) : Tiles k c (applySplit k ps d) := by
  unfold applySplit
  cases hp : ps[d.1]? with
  | none => exact h
  | some p =>
    simp only []
    split
    · rename_i hs
      obtain ⟨hlt, hpi⟩ := List.getElem?_eq_some_iff.mp hp
      have hdec : ps = ps.take d.1 ++ p :: ps.drop (d.1 + 1) := by
        rw [← hpi, ← List.drop_eq_getElem_cons hlt, List.take_append_drop]
      rw [hdec] at h
      exact tiles_split k c d.2 p _ _ hs h
    · exact h

theorem applySplits_tiles (k : Nat) (c : List Nat) (ds : List (Nat × Nat)) :
    ∀ (ps : List (List Nat)), Tiles k c ps → Tiles k c (applySplits k ps ds) := by
  induction ds with
  | nil => intro ps h; exact h
  | cons d ds ih => intro ps h; exact ih _ (applySplit_tiles k c ps d h)

/-- How the writer stores one (already oriented) piece. `before` / `after` are the other entries
of the pack the piece's entry shares; `ph`: the pack is the first of a raw group (placeholder
entry first). The choices (which group, hence which reference; tuple packing or not; which
neighbours) are the writer's heuristics — all universally quantified. -/
inductive Form where
  /-- entry of a raw-group pack -/
  | raw (ph : Bool) (before after : List (List Nat))
  /-- the reference part of an LZ group -/
  | ref (useTuples : Bool)
  /-- LZ-diff entry of a delta pack, against the group's reference `r`, candidate supplier `S` -/
  | lz (S : UInt64 → List Nat) (r : List Nat) (before after : List (List Nat))

def NoSep (es : List (List Nat)) : Prop := ∀ e ∈ es, 255 ∉ e

/-- What is assumed of a choice: the neighbouring entries are splittable, and (LZ) the encoder
answers — it always does for the real index, `Props.C09.encode_total`. -/
def Form.OK (mm : Nat) : Form → List Nat → Prop
  | .raw _ b a, _ => NoSep b ∧ NoSep a
  | .ref _, _ => True
  | .lz S r b a, x => NoSep b ∧ NoSep a ∧ (Ragc.Model.LzDiff.encode S mm r x).isSome

/-- A pack part as written: layout, ZSTD, marker 0, raw fallback. -/
def writePack (zc : Nat → List Nat → List Nat) (level : Nat) (ph : Bool) (es : List (List Nat)) :
    List Nat × Nat :=
  Ragc.SegCompress.storePack zc level (if ph then packEntriesRaw es else packEntries es)

/-- Write the piece in the chosen form, then read it back the way the format says (unframe the
part by its metadata, split the pack, take the addressed entry, LZ-decode against the reference). -/
def storeRead (zc : Nat → List Nat → List Nat) (zd : List Nat → Option (List Nat)) (mm level : Nat) :
    Form → List Nat → Option (List Nat)
  | .raw ph b a, x =>
    let part := writePack zc level ph (b ++ x :: a)
    (Ragc.SegCompress.unframePart zd part.1 part.2).bind fun packed =>
      Ragc.Agc3.unpackEntry packed (b.length + if ph then 1 else 0)
  | .ref t, x =>
    let cm := Ragc.SegCompress.compressRefWith zc t x
    let part := Ragc.SegCompress.framePart cm.1 cm.2 x
    Ragc.SegCompress.unframePart zd part.1 part.2
  | .lz S r b a, x =>
    match Ragc.Model.LzDiff.encode S mm r x with
    | none => none
    | some enc =>
      let part := writePack zc level false (b ++ enc :: a)
      (Ragc.SegCompress.unframePart zd part.1 part.2).bind fun packed =>
        (Ragc.Agc3.unpackEntry packed b.length).bind (Ragc.Model.LzDiff.decodeSeg mm r)

/-- Store a logical piece with orientation flag `f` in form `fm`, read it back, undo the flag. -/
def readBack (zc : Nat → List Nat → List Nat) (zd : List Nat → Option (List Nat)) (mm level : Nat)
    (x : (Bool × Form) × List Nat) : Option (List Nat) :=
  (storeRead zc zd mm level x.1.2 (orient x.1.1 x.2)).map (orient x.1.1)

end Ragc.Roundtrip
