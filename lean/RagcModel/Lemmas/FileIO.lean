import RagcModel.Model.FileIO
import RagcModel.Lemmas.Varint
/-!
Helper lemmas for C15 (`Model/FileIO.lean`).

Two predicates describe a `BufWriter` in the middle of a run against the byte stream `pre`
handed to it so far:
* `Good lim pre w`  — no error yet: file contents ++ buffer = `pre`, the file is within its limit;
* `Failed lim tgt s` — an error has been returned: the file `s` holds exactly the first `lim`
  bytes of `tgt` and `tgt` is longer than `lim` (so the file is full).
`Step lim tgt (r, w)` is `Good` or `Failed` according to the result `r` of a write-path step; one
lemma per operation (`*_step`) up to `finalize_step`. Independently of errors, every operation only
extends the file within its limit (`Ext`, lemmas `*_Ext`); `createRun_spec` puts the two together.
In the proofs `generalize <call> = x at h ⊢; obtain ⟨_ | _, w1⟩ := x` splits on the result of a
`?`-sequenced call, carrying along what is known about it.
-/
namespace Ragc.FileIO
open Ragc.Varint

structure Good (lim : Nat) (pre : Bytes) (w : BufWriter) : Prop where
  lim_eq : w.inner.limit = lim
  inv : w.inner.contents.length ≤ lim
  stream : w.inner.contents ++ w.buf = pre

structure Failed (lim : Nat) (tgt : Bytes) (s : Sink) : Prop where
  lim_eq : s.limit = lim
  contents : s.contents = tgt.take lim
  short : lim < tgt.length

theorem Good.inv' {lim : Nat} {pre : Bytes} {w : BufWriter} (g : Good lim pre w) :
    w.inner.contents.length ≤ w.inner.limit := by rw [g.lim_eq]; exact g.inv

theorem Failed.full {lim : Nat} {tgt : Bytes} {s : Sink} (h : Failed lim tgt s) :
    s.contents.length = s.limit := by
  rw [h.contents, h.lim_eq, List.length_take, Nat.min_eq_left (Nat.le_of_lt h.short)]

theorem Failed.extend {lim : Nat} {tgt : Bytes} {s : Sink} (h : Failed lim tgt s) (more : Bytes) :
    Failed lim (tgt ++ more) s :=
  ⟨h.lim_eq, by rw [h.contents, List.take_append_of_le_length (Nat.le_of_lt h.short)],
   by rw [List.length_append]; exact Nat.lt_add_right _ h.short⟩

theorem Sink.write_of_le {s : Sink} {bs : Bytes} (h : bs.length ≤ s.limit - s.contents.length) :
    s.write bs = (.ok, bs.length, { s with contents := s.contents ++ bs }) := if_pos h

theorem Sink.write_of_lt {s : Sink} {bs : Bytes} (h : s.limit - s.contents.length < bs.length) :
    s.write bs = (.err, s.limit - s.contents.length,
      { s with contents := s.contents ++ bs.take (s.limit - s.contents.length) }) :=
  if_neg (Nat.not_le.mpr h)

/-- `Ext s s'`: `s'` is `s` after some more writes. Needed once: whatever `Drop` still writes after
a failed `finalize`, the file was full and so stays as it is (`Ext.of_full`, `createRun_spec`). -/
structure Ext (s s' : Sink) : Prop where
  lim_eq : s'.limit = s.limit
  inv : s'.contents.length ≤ s.limit
  ext : ∃ t, s'.contents = s.contents ++ t

theorem Ext.refl (s : Sink) (h : s.contents.length ≤ s.limit) : Ext s s :=
  ⟨rfl, h, [], (List.append_nil _).symm⟩

theorem Ext.trans {a b c : Sink} (h1 : Ext a b) (h2 : Ext b c) : Ext a c := by
  obtain ⟨t1, e1⟩ := h1.ext
  obtain ⟨t2, e2⟩ := h2.ext
  exact ⟨h2.lim_eq.trans h1.lim_eq, h1.lim_eq ▸ h2.inv, t1 ++ t2, by rw [e2, e1, List.append_assoc]⟩

theorem Ext.inv' {a b : Sink} (h : Ext a b) : b.contents.length ≤ b.limit := by
  rw [h.lim_eq]; exact h.inv

theorem Ext.of_full {a b : Sink} (h : Ext a b) (hf : a.contents.length = a.limit) :
    b.contents = a.contents := by
  obtain ⟨t, e⟩ := h.ext
  have hl := h.inv
  rw [e, List.length_append, hf] at hl
  rw [e, List.eq_nil_of_length_eq_zero (by omega : t.length = 0), List.append_nil]

theorem Sink.write_Ext (s : Sink) (bs : Bytes) (hinv : s.contents.length ≤ s.limit) :
    Ext s (s.write bs).2.2 := by
  by_cases h : bs.length ≤ s.limit - s.contents.length
  · rw [Sink.write_of_le h]
    exact ⟨rfl, by rw [List.length_append]; omega, bs, rfl⟩
  · rw [Sink.write_of_lt (Nat.not_le.mp h)]
    exact ⟨rfl, by rw [List.length_append, List.length_take]; omega, _, rfl⟩

theorem flushBuf_Ext (w : BufWriter) (hinv : w.inner.contents.length ≤ w.inner.limit) :
    Ext w.inner w.flushBuf.2.inner ∧ w.flushBuf.2.cap = w.cap :=
  ⟨Sink.write_Ext _ _ hinv, rfl⟩

theorem direct_Ext (w : BufWriter) (bs : Bytes) (hinv : w.inner.contents.length ≤ w.inner.limit) :
    Ext w.inner (w.direct bs).2.inner ∧ (w.direct bs).2.cap = w.cap := by
  unfold BufWriter.direct
  split
  · exact ⟨Sink.write_Ext _ _ hinv, rfl⟩
  · exact ⟨Ext.refl _ hinv, rfl⟩

theorem writeAll_Ext (w : BufWriter) (bs : Bytes) (hinv : w.inner.contents.length ≤ w.inner.limit) :
    Ext w.inner (w.writeAll bs).2.inner ∧ (w.writeAll bs).2.cap = w.cap := by
  unfold BufWriter.writeAll
  split
  · exact ⟨Ext.refl _ hinv, rfl⟩
  · split
    · have hfe := flushBuf_Ext w hinv
      generalize w.flushBuf = x at hfe ⊢
      obtain ⟨_ | _, w1⟩ := x
      · have := direct_Ext w1 bs hfe.1.inv'
        exact ⟨hfe.1.trans this.1, this.2.trans hfe.2⟩
      · exact hfe
    · exact direct_Ext w bs hinv

theorem writeChunks_Ext (cs : List Bytes) (w : BufWriter)
    (hinv : w.inner.contents.length ≤ w.inner.limit) :
    Ext w.inner (writeChunks w cs).2.inner ∧ (writeChunks w cs).2.cap = w.cap := by
  induction cs generalizing w with
  | nil => exact ⟨Ext.refl _ hinv, rfl⟩
  | cons c rest ih =>
    unfold writeChunks
    have hwa := writeAll_Ext w c hinv
    generalize w.writeAll c = x at hwa ⊢
    obtain ⟨_ | _, w1⟩ := x
    · have := ih w1 hwa.1.inv'
      exact ⟨hwa.1.trans this.1, this.2.trans hwa.2⟩
    · exact hwa

theorem serialize_Ext (w : BufWriter) (footer : Bytes)
    (hinv : w.inner.contents.length ≤ w.inner.limit) : Ext w.inner (serialize w footer).2.inner := by
  unfold serialize
  have h1 := (writeAll_Ext w footer hinv).1
  generalize w.writeAll footer = x at h1 ⊢
  obtain ⟨_ | _, w1⟩ := x
  · dsimp only
    have h2 := h1.trans (writeAll_Ext w1 (le64 footer.length) h1.inv').1
    generalize w1.writeAll (le64 footer.length) = y at h2 ⊢
    obtain ⟨_ | _, w2⟩ := y
    · exact h2.trans (flushBuf_Ext w2 h2.inv').1
    · exact h2
  · exact h1

theorem drop_Ext (w : BufWriter) (hinv : w.inner.contents.length ≤ w.inner.limit) :
    Ext w.inner w.drop := (flushBuf_Ext w hinv).1

theorem file_of_writer (a : Arch) (w : BufWriter) (h : a.writer = some w) :
    a.file = w.inner.contents := by
  rw [Arch.file, h]

/-- `Drop for Archive` after a successful `close`: "Archive not open for writing", no I/O. -/
theorem dropArchive_of_no_writer (a : Arch) (h : a.writer = none) (footerD : Bytes) :
    a.dropArchive footerD = (.noWriter, a.file) := by
  simp only [Arch.dropArchive, Arch.close, h]

theorem dropArchive_Ext (w : BufWriter) (c : Option Sink) (footerD : Bytes)
    (hinv : w.inner.contents.length ≤ w.inner.limit) :
    ∃ s', Ext w.inner s' ∧ ((⟨some w, c⟩ : Arch).dropArchive footerD).2 = s'.contents := by
  unfold Arch.dropArchive Arch.close BufWriter.flush
  dsimp only
  have hf := (flushBuf_Ext w hinv).1
  generalize w.flushBuf = x at hf ⊢
  obtain ⟨_ | _, w1⟩ := x
  · dsimp only
    have hs := hf.trans (serialize_Ext w1 footerD hf.inv')
    generalize serialize w1 footerD = y at hs ⊢
    obtain ⟨_ | _, w2⟩ := y
    · exact ⟨w2.drop, hs.trans (drop_Ext w2 hs.inv'), rfl⟩
    · exact ⟨w2.drop, hs.trans (drop_Ext w2 hs.inv'), rfl⟩
  · exact ⟨w1.drop, hf.trans (drop_Ext w1 hf.inv'), rfl⟩

/-- What a step of the write path with result `r` leaves when `tgt` is the byte stream handed over
so far: all of it accepted, or the file full. -/
def Step (lim : Nat) (tgt : Bytes) : Res × BufWriter → Prop
  | (.ok, w) => Good lim tgt w
  | (.err, w) => Failed lim tgt w.inner

theorem Sink.write_spec (s : Sink) (bs : Bytes) (hinv : s.contents.length ≤ s.limit) :
    match s.write bs with
    | (.ok, k, s') => k = bs.length ∧ s'.limit = s.limit ∧ s'.contents = s.contents ++ bs ∧
        (s.contents ++ bs).length ≤ s.limit
    | (.err, _, s') => Failed s.limit (s.contents ++ bs) s' := by
  by_cases h : bs.length ≤ s.limit - s.contents.length
  · rw [Sink.write_of_le h]
    exact ⟨rfl, rfl, rfl, by rw [List.length_append]; omega⟩
  · rw [Sink.write_of_lt (Nat.not_le.mp h)]
    exact ⟨rfl, by rw [List.take_append, List.take_of_length_le hinv],
      by rw [List.length_append]; omega⟩

section
variable {lim : Nat} {pre : Bytes} {w : BufWriter}

theorem flushBuf_step (g : Good lim pre w) :
    Step lim pre w.flushBuf ∧ (w.flushBuf.1 = .ok → w.flushBuf.2.buf = []) := by
  have hw := Sink.write_spec w.inner w.buf g.inv'
  unfold BufWriter.flushBuf
  generalize w.inner.write w.buf = x at hw ⊢
  obtain ⟨_ | _, k, s'⟩ := x
  · obtain ⟨rfl, hl, hc, hle⟩ := hw
    have hb : w.buf.drop w.buf.length = [] := List.drop_length
    exact ⟨⟨hl.trans g.lim_eq, by rw [hc, ← g.lim_eq]; exact hle,
      by rw [hc]; exact (congrArg _ hb).trans ((List.append_nil _).trans g.stream)⟩, fun _ => hb⟩
  · rw [g.stream, g.lim_eq] at hw
    exact ⟨hw, fun h => nomatch h⟩

/-- The second half of `write_all_cold`, entered with an empty buffer whenever it writes through. -/
theorem direct_step {bs : Bytes} (g : Good lim pre w)
    (hdir : bs.length ≥ w.cap → w.buf = [] ∨ bs = []) : Step lim (pre ++ bs) (w.direct bs) := by
  have hw := Sink.write_spec w.inner bs g.inv'
  unfold BufWriter.direct
  split
  · rename_i hge
    generalize w.inner.write bs = x at hw ⊢
    obtain ⟨_ | _, k, s'⟩ := x
    · obtain ⟨-, hl, hc, hle⟩ := hw
      refine ⟨hl.trans g.lim_eq, by rw [hc, ← g.lim_eq]; exact hle, ?_⟩
      rcases hdir hge with hb | hb
      · rw [← g.stream, hc, hb, List.append_nil, List.append_nil]
      · rw [← g.stream, hc, hb, List.append_nil, List.append_nil]
    · rcases hdir hge with hb | hb
      · rw [← g.stream, hb, List.append_nil, ← g.lim_eq]; exact hw
      · have := hw.short
        rw [hb, List.append_nil] at this
        exact absurd g.inv' (Nat.not_le.mpr this)
  · exact ⟨g.lim_eq, g.inv, by rw [← List.append_assoc, g.stream]⟩

theorem writeAll_step {bs : Bytes} (g : Good lim pre w) :
    Step lim (pre ++ bs) (w.writeAll bs) := by
  unfold BufWriter.writeAll
  split
  · exact ⟨g.lim_eq, g.inv, by rw [← List.append_assoc, g.stream]⟩
  · split
    · obtain ⟨hs, hb⟩ := flushBuf_step g
      generalize w.flushBuf = x at hs hb ⊢
      obtain ⟨_ | _, w1⟩ := x
      · exact direct_step hs fun _ => Or.inl (hb rfl)
      · exact Failed.extend hs bs
    · rename_i h1 h2
      refine direct_step g fun hge => ?_
      rcases Nat.eq_zero_or_pos w.buf.length with hb | hb
      · exact Or.inl (List.eq_nil_of_length_eq_zero hb)
      · exact Or.inr (List.eq_nil_of_length_eq_zero (by omega))

theorem writeChunks_step (cs : List Bytes) (g : Good lim pre w) :
    Step lim (pre ++ cs.flatten) (writeChunks w cs) := by
  induction cs generalizing w pre with
  | nil => rw [List.flatten_nil, List.append_nil]; exact g
  | cons c rest ih =>
    have hs := writeAll_step (bs := c) g
    rw [List.flatten_cons, ← List.append_assoc]
    unfold writeChunks
    generalize w.writeAll c = x at hs ⊢
    obtain ⟨_ | _, w1⟩ := x
    · exact ih hs
    · exact Failed.extend hs _

theorem serialize_step {footer : Bytes} (g : Good lim pre w) :
    Step lim (pre ++ footer ++ le64 footer.length) (serialize w footer) ∧
      ((serialize w footer).1 = .ok → (serialize w footer).2.buf = []) := by
  have h1 := writeAll_step (bs := footer) g
  unfold serialize
  generalize w.writeAll footer = x at h1 ⊢
  obtain ⟨_ | _, w1⟩ := x
  · dsimp only
    have h2 := writeAll_step (bs := le64 footer.length) h1
    generalize w1.writeAll (le64 footer.length) = y at h2 ⊢
    obtain ⟨_ | _, w2⟩ := y
    · exact flushBuf_step h2
    · exact ⟨h2, fun h => nomatch h⟩
  · exact ⟨Failed.extend h1 _, fun h => nomatch h⟩

theorem finalize_step (g : Good lim pre w) (c : Option Sink) (chunks : List Bytes) (footer : Bytes) :
    match finalize ⟨some w, c⟩ chunks footer with
    | (.ok, a) => a.writer = none ∧ a.file = pre ++ fullFile chunks footer ∧
        (pre ++ fullFile chunks footer).length ≤ lim
    | (.err, a) => ∃ w', a.writer = some w' ∧ Failed lim (pre ++ fullFile chunks footer) w'.inner := by
  have e : pre ++ fullFile chunks footer = pre ++ chunks.flatten ++ footer ++ le64 footer.length := by
    simp only [fullFile, List.append_assoc]
  have h1 := writeChunks_step chunks g
  unfold finalize
  rw [e]
  dsimp only
  generalize writeChunks w chunks = x at h1 ⊢
  obtain ⟨_ | _, w1⟩ := x
  · obtain ⟨h2, -⟩ := flushBuf_step h1
    unfold Arch.close BufWriter.flush
    dsimp only
    generalize w1.flushBuf = y at h2 ⊢
    obtain ⟨_ | _, w2⟩ := y
    · obtain ⟨h3, hb⟩ := serialize_step (footer := footer) h2
      dsimp only
      generalize serialize w2 footer = z at h3 hb ⊢
      obtain ⟨_ | _, w3⟩ := z
      · have hb' : w3.buf = [] := hb rfl
        have hc : w3.inner.contents = pre ++ chunks.flatten ++ footer ++ le64 footer.length := by
          have := h3.stream; rwa [hb', List.append_nil] at this
        have hd : w3.drop.contents = w3.inner.contents := by
          rw [BufWriter.drop, BufWriter.flushBuf, hb',
            Sink.write_of_le (s := w3.inner) (bs := []) (Nat.zero_le _)]
          exact List.append_nil _
        exact ⟨rfl, hd.trans hc, hc ▸ h3.inv⟩
      · exact ⟨w3, rfl, h3⟩
    · exact ⟨w2, rfl, (Failed.extend h2 footer).extend _⟩
  · exact ⟨w1, rfl, (Failed.extend h1 footer).extend _⟩

end

/-- `finalize_step` for the freshly created archive. -/
theorem finalize_create_step (cap limit : Nat) (chunks : List Bytes) (footer : Bytes) :
    match finalize (Arch.create cap limit) chunks footer with
    | (.ok, a) => a.writer = none ∧ a.file = fullFile chunks footer ∧
        (fullFile chunks footer).length ≤ limit
    | (.err, a) => ∃ w', a.writer = some w' ∧ Failed limit (fullFile chunks footer) w'.inner :=
  finalize_step (⟨rfl, Nat.zero_le _, rfl⟩ : Good limit [] ⟨cap, [], ⟨limit, []⟩⟩) none chunks footer

/-- One `create` run, destructors included: the complete archive fits and is what is left behind
(`Drop`'s second `close` finds no writer), or `finalize` fails with the file full, which nothing
`Drop` does can change. -/
theorem createRun_spec (cap limit : Nat) (chunks : List Bytes) (footer footerD : Bytes) :
    ((fullFile chunks footer).length ≤ limit ∧
      createRun cap limit chunks footer footerD = (.ok, .noWriter, fullFile chunks footer)) ∨
    (limit < (fullFile chunks footer).length ∧ (createRun cap limit chunks footer footerD).1 = .err ∧
      (createRun cap limit chunks footer footerD).2.2 = (fullFile chunks footer).take limit) := by
  have hs := finalize_create_step cap limit chunks footer
  unfold createRun
  generalize finalize (Arch.create cap limit) chunks footer = x at hs ⊢
  obtain ⟨_ | _, a⟩ := x
  · obtain ⟨hw, hfile, hlen⟩ := hs
    refine Or.inl ⟨hlen, ?_⟩
    dsimp only
    rw [dropArchive_of_no_writer a hw, hfile]
  · obtain ⟨w, hw, hf⟩ := hs
    obtain ⟨wr, cl⟩ := a
    cases (hw : wr = some w)
    obtain ⟨s', hext, hs'⟩ := dropArchive_Ext w cl footerD (Nat.le_of_eq hf.full)
    refine Or.inr ⟨hf.short, rfl, ?_⟩
    dsimp only
    rw [hs', hext.of_full hf.full]; exact hf.contents

end Ragc.FileIO
