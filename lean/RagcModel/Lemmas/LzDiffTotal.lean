import RagcModel.Model.LzDiff
/-!
C09: the encoder never panics with the real index. `encLoop` returns `none` only through an
out-of-range k-mer read; a supplier whose positions all leave room for a k-mer in the padded
reference (or are ≥ its length, which the code skips) cannot cause one, and the linear-probing
table built by `build_index_lp` only ever stores such positions.
-/
namespace Ragc.Model.LzDiff
open Ragc.Gen

/-- every proposed position is skipped (`h_pos >= reference.len()`) or leaves room for a k-mer. -/
def SupOK (S : UInt64 → List Nat) (refP : Array Nat) (k : Nat) : Prop :=
  ∀ code h, h ∈ S code → refP.size ≤ h ∨ h + k ≤ refP.size

theorem getCodeGo_ne_oob {a : Array Nat} {n off : Nat} (code : UInt64) (h : off + n ≤ a.size) :
    getCodeGo a off n code ≠ .oob := by
  fun_induction getCodeGo a off n code with
  | case1 | case3 => exact CodeR.noConfusion
  | case2 off n code hnone =>
    exact absurd (Array.getElem?_eq_none_iff.mp hnone)
      (Nat.not_le.mpr (Nat.lt_of_lt_of_le (Nat.lt_add_of_pos_right (Nat.succ_pos n)) h))
  | case4 off n code s hs hle ih => exact ih (Nat.succ_add_eq_add_succ off n ▸ h)

theorem getCode_ne_oob {a : Array Nat} {off k : Nat} (h : off + k ≤ a.size) : getCode a off k ≠ .oob :=
  getCodeGo_ne_oob 0 h

theorem getCodeSkip1_ne_oob (prev : UInt64) {a : Array Nat} {off k : Nat} (hk : 1 ≤ k) (h : off + k ≤ a.size) :
    getCodeSkip1 prev a off k ≠ .oob := by
  unfold getCodeSkip1
  split
  · next hnone =>
    exact absurd (Nat.lt_of_lt_of_le (Nat.add_lt_add_left (Nat.sub_lt hk Nat.one_pos) off) h)
      (Nat.not_lt.mpr (Array.getElem?_eq_none_iff.mp hnone))
  · split <;> exact CodeR.noConfusion

theorem nextCode_ne_oob (xprev : Option UInt64) (npl : Nat) {t : Array Nat} {i k : Nat} (hk : 1 ≤ k)
    (h : i + k ≤ t.size) : nextCode xprev npl t i k ≠ .oob := by
  unfold nextCode
  split
  · split
    · exact getCodeSkip1_ne_oob _ hk h
    · exact getCode_ne_oob h
  · exact getCode_ne_oob h

theorem selectBest_ne_panic {mm k : Nat} {refP t : Array Nat} {code : UInt64} {ti maxLen npl : Nat}
    {cands : List Nat} {b : Best} (hc : ∀ h, h ∈ cands → refP.size ≤ h ∨ h + k ≤ refP.size) :
    selectBest mm k refP t code ti maxLen npl cands b ≠ .panic := by
  fun_induction selectBest mm k refP t code ti maxLen npl cands b with
  | case1 | case2 => exact Found.noConfusion -- candidates exhausted
  | case4 hd tl b hsz hoob => -- the k-mer read at `hd`: in range by `hc`
    exact absurd hoob (getCode_ne_oob ((hc hd List.mem_cons_self).resolve_left hsz))
  | case3 | case5 | case6 | case7 | case8 | case9 => -- candidate skipped or accepted
    rename_i ih; exact ih (fun h hh => hc h (List.mem_cons_of_mem _ hh))

theorem encLoop_ne_none {S : UInt64 → List Nat} {mm : Nat} {hmm : lzHashingStep ≤ mm} {refP : Array Nat}
    {refLen : Nat} {t : Array Nat} (hS : SupOK S refP (keyLen mm))
    {i pred npl : Nat} {toks : List Tok} {xprev : Option UInt64} :
    encLoop S mm hmm refP refLen t i pred npl toks xprev ≠ none := by
  have hk : 1 ≤ keyLen mm := by unfold keyLen; omega
  fun_induction encLoop S mm hmm refP refLen t i pred npl toks xprev with
  | case1 i pred npl toks xprev hlt hx => -- k-mer read of the target
    exact absurd hx (nextCode_ne_oob _ _ hk (Nat.le_of_lt hlt))
  | case3 i pred npl toks xprev hlt hx hn hc | case6 i pred npl toks xprev hlt code hx hf hc =>
    -- the literal read `t[i]`: in range inside the loop
    exact absurd (Nat.lt_of_le_of_lt (Nat.le_add_right i _) hlt)
      (Nat.not_lt.mpr (Array.getElem?_eq_none_iff.mp hc))
  | case5 i pred npl toks xprev hlt code hx hf => -- the finder
    exact absurd hf (selectBest_ne_panic (hS code))
  | case2 | case4 | case7 | case8 => assumption -- N run, literal, literal, match
  | case9 => exact Option.some_ne_none _ -- loop exit

/-- every slot is empty or `slot * HASHING_STEP + k < n` (`n` = padded reference length). -/
def TblOK (n k : Nat) (tbl : Array Nat) : Prop :=
  ∀ x, x ∈ tbl.toList → x = emptySlot ∨ x * lzHashingStep + k < n

theorem probeInsert_tblOK {n k v : Nat} (hv : v * lzHashingStep + k < n)
    {tbl : Array Nat} (base tries j : Nat) (h : TblOK n k tbl) :
    TblOK n k (probeInsert tbl base v tries j) := by
  fun_induction probeInsert tbl base v tries j with
  | case1 => exact h
  | case2 tries j idx hempty =>
    intro x hx
    rw [Array.set!_eq_setIfInBounds, Array.toList_setIfInBounds] at hx
    rcases List.mem_or_eq_of_mem_set hx with hx | rfl
    · exact h x hx
    · exact Or.inr hv
  | case3 tries j idx hfull ih => exact ih

theorem insertLoop_tblOK (refP : Array Nat) (k : Nat) (tbl : Array Nat) (i : Nat)
    (hi : i % lzHashingStep = 0) (h : TblOK refP.size k tbl) :
    TblOK refP.size k (insertLoop refP k tbl i) := by
  have h4 : 0 < lzHashingStep := by decide
  fun_induction insertLoop refP k tbl i with
  | case1 tbl i hlt code hc ih =>
    refine ih (by rw [Nat.add_mod_right]; exact hi) (probeInsert_tblOK ?_ _ _ _ h)
    have : i / lzHashingStep * lzHashingStep = i := Nat.div_mul_cancel (Nat.dvd_of_mod_eq_zero hi)
    omega
  | case2 tbl i hlt hc ih => exact ih (by rw [Nat.add_mod_right]; exact hi) h
  | case3 tbl i hlt => exact h

theorem buildIndex_tblOK (refP : Array Nat) (k : Nat) : TblOK refP.size k (buildIndex refP k) := by
  unfold buildIndex
  apply insertLoop_tblOK
  · exact Nat.zero_mod _
  · intro x hx
    rw [Array.toList_replicate, List.mem_replicate] at hx
    exact Or.inl hx.2

theorem probeLookup_fits {n k : Nat} {tbl : Array Nat} (htbl : TblOK n k tbl) {base tries j h : Nat}
    (hh : h ∈ probeLookup tbl base tries j) : h + k < n := by
  fun_induction probeLookup tbl base tries j with
  | case1 | case2 => cases hh
  | case3 tries j slot hne ih =>
    rcases List.mem_cons.mp hh with rfl | hh
    · -- a slot that is not the default of `getD` was read from the table
      have hx : slot ∈ tbl.toList := by
        by_cases hlt : (base + j) % tbl.size < tbl.size
        · rw [show slot = tbl[(base + j) % tbl.size] from dif_pos hlt]
          exact Array.mem_toList_iff.mpr (Array.getElem_mem hlt)
        · exact absurd (dif_neg hlt) hne
      exact (htbl slot hx).resolve_left hne
    · exact ih hh

theorem exactSupplier_ok (mm : Nat) (refP : Array Nat) : SupOK (exactSupplier mm refP) refP (keyLen mm) := by
  intro code h hh
  right
  have := probeLookup_fits (buildIndex_tblOK refP (keyLen mm)) hh
  omega

theorem encode_isSome (S : UInt64 → List Nat) (mm : Nat) (ref tgt : List Nat) (hmm : lzHashingStep ≤ mm)
    (hS : SupOK S (padRef mm ref) (keyLen mm)) : ∃ enc, encode S mm ref tgt = some enc := by
  unfold encode encodeToks
  rw [dif_pos hmm]
  split
  · exact ⟨_, rfl⟩
  · cases hl : encLoop S mm hmm (padRef mm ref) ref.length tgt.toArray 0 0 0 [] none with
    | none => exact absurd hl (encLoop_ne_none hS)
    | some res => exact ⟨_, rfl⟩

/-- **`LZDiff::encode` never panics** (model level) for `min_match_len ≥ HASHING_STEP`. -/
theorem encodeExact_isSome (mm : Nat) (ref tgt : List Nat) (hmm : lzHashingStep ≤ mm) :
    ∃ enc, encodeExact mm ref tgt = some enc :=
  encode_isSome _ mm ref tgt hmm (exactSupplier_ok mm _)

end Ragc.Model.LzDiff
