import RagcModel.Model.Names
import RagcModel.Lemmas.CollVarint
/-! Lemmas for the contig-name codec (C03, DESIGN Appendix A.2). -/
namespace Ragc.Names
open Ragc.CollVarint

theorem splitSp_cons_sp (r : List Nat) : splitSp (32 :: r) = [] :: splitSp r := by
  rw [splitSp, if_pos rfl]

/-- A split is never empty (the last alternative of the `match` in `splitSp` is unreachable). -/
theorem splitSp_eq_cons (l : List Nat) : ∃ f fs, splitSp l = f :: fs := by
  induction l with
  | nil => exact ⟨[], [], rfl⟩
  | cons b r ih =>
    obtain ⟨f, fs, e⟩ := ih
    by_cases h : b = 32
    · exact ⟨[], splitSp r, by rw [h, splitSp_cons_sp]⟩
    · exact ⟨b :: f, fs, by rw [splitSp, if_neg h, e]⟩

theorem splitSp_cons_ne {b : Nat} (h : b ≠ 32) {r f : List Nat} {fs : List (List Nat)}
    (e : splitSp r = f :: fs) : splitSp (b :: r) = (b :: f) :: fs := by
  rw [splitSp, if_neg h, e]

theorem splitSp_length_pos (l : List Nat) : 0 < (splitSp l).length := by
  obtain ⟨f, fs, e⟩ := splitSp_eq_cons l
  rw [e]; exact Nat.succ_pos _

theorem joinSp_cons_cons (b : Nat) (f : List Nat) (fs : List (List Nat)) :
    joinSp ((b :: f) :: fs) = b :: joinSp (f :: fs) := by
  cases fs <;> rfl

theorem joinSp_splitSp (l : List Nat) : joinSp (splitSp l) = l := by
  induction l with
  | nil => rfl
  | cons b r ih =>
    obtain ⟨f, fs, e⟩ := splitSp_eq_cons r
    by_cases h : b = 32
    · rw [h, splitSp_cons_sp, e, joinSp, ← e, ih]; rfl
    · rw [splitSp_cons_ne h e, joinSp_cons_cons, ← e, ih]

theorem splitSp_single (f : List Nat) (h : ∀ b ∈ f, b ≠ 32) : splitSp f = [f] := by
  induction f with
  | nil => rfl
  | cons b f ih =>
    have ⟨hb, hf⟩ := List.forall_mem_cons.mp h
    exact splitSp_cons_ne hb (ih hf)

theorem splitSp_append_sp (f rest : List Nat) (h : ∀ b ∈ f, b ≠ 32) :
    splitSp (f ++ 32 :: rest) = f :: splitSp rest := by
  induction f with
  | nil => exact splitSp_cons_sp rest
  | cons b f ih =>
    have ⟨hb, hf⟩ := List.forall_mem_cons.mp h
    exact splitSp_cons_ne hb (ih hf)

theorem splitSp_joinSp (fs : List (List Nat)) (hne : fs ≠ [])
    (h : ∀ f ∈ fs, ∀ b ∈ f, b ≠ 32) : splitSp (joinSp fs) = fs := by
  induction fs with
  | nil => exact absurd rfl hne
  | cons f fs ih =>
    have ⟨hf, hfs⟩ := List.forall_mem_cons.mp h
    cases fs with
    | nil => exact splitSp_single f hf
    | cons g gs => rw [joinSp, splitSp_append_sp f _ hf, ih (List.cons_ne_nil _ _) hfs]

theorem mem_splitSp (l : List Nat) : ∀ f ∈ splitSp l, ∀ b ∈ f, b ∈ l ∧ b ≠ 32 := by
  induction l with
  | nil => intro f hf b hb; rw [List.mem_singleton.mp hf] at hb; exact absurd hb List.not_mem_nil
  | cons c r ih =>
    have tail {f} (hf : f ∈ splitSp r) {b} (hb : b ∈ f) : b ∈ c :: r ∧ b ≠ 32 :=
      (ih f hf b hb).imp_left (List.mem_cons_of_mem c)
    obtain ⟨g, gs, e⟩ := splitSp_eq_cons r
    intro f hf b hb
    by_cases h : c = 32
    · rw [h, splitSp_cons_sp] at hf
      rcases List.mem_cons.mp hf with rfl | hf
      · exact absurd hb List.not_mem_nil
      · exact h ▸ tail hf hb
    · rw [splitSp_cons_ne h e] at hf
      rcases List.mem_cons.mp hf with rfl | hf
      · rcases List.mem_cons.mp hb with rfl | hb
        · exact ⟨List.mem_cons_self, h⟩
        · exact tail (e ▸ List.mem_cons_self) hb
      · exact tail (e ▸ List.mem_cons_of_mem g hf) hb

theorem decRun_literals (p c : List Nat) (h : ∀ b ∈ c, b < 128) : decRun p c = .ok c := by
  induction c generalizing p with
  | nil => rfl
  | cons b c ih =>
    have ⟨hb, hc⟩ := List.forall_mem_cons.mp h
    rw [decRun, if_pos hb, ih (p.drop 1) hc]

/-- The marker for `cnt` pending equal symbols, if any. -/
def flush (cnt : Nat) : List Nat := if cnt > 0 then [256 - cnt] else []

theorem rle_cons_cons (cnt p c : Nat) (ps cs : List Nat) :
    rle cnt (p :: ps) (c :: cs) =
      if p = c then (if cnt = 100 then (256 - cnt) :: rle 1 ps cs else rle (cnt + 1) ps cs)
      else flush cnt ++ c :: rle 0 ps cs := rfl

theorem rle_nil_right (cnt : Nat) (p : List Nat) : rle cnt p [] = flush cnt := by
  cases p <;> rfl

theorem rle_nil_left (cnt : Nat) (c : List Nat) : rle cnt [] c = flush cnt := by
  cases c <;> rfl

theorem marker_ge {cnt : Nat} (h : cnt ≤ 100) : 156 ≤ 256 - cnt :=
  Nat.le_sub_of_add_le (Nat.add_le_add_left h 156)

theorem mem_flush {cnt b : Nat} (h : cnt ≤ 100) (hb : b ∈ flush cnt) : 156 ≤ b := by
  unfold flush at hb
  split at hb
  · rw [List.mem_singleton.mp hb]; exact marker_ge h
  · exact absurd hb List.not_mem_nil

/-- A marker copies the pending symbols `pre`, which the decoder has not consumed yet. -/
theorem decRun_flush (pre p e t : List Nat) (h100 : pre.length ≤ 100) (h : decRun p e = .ok t) :
    decRun (pre ++ p) (flush pre.length ++ e) = .ok (pre ++ t) := by
  unfold flush
  split
  · have hk := marker_ge h100
    have h3 : 256 - (256 - pre.length) = pre.length :=
      Nat.sub_sub_self (Nat.le_trans h100 (by decide : 100 ≤ 256))
    rw [List.singleton_append, decRun, if_neg (Nat.not_lt.mpr (Nat.le_trans (by decide) hk)),
      if_neg (Nat.ne_of_gt (Nat.lt_of_lt_of_le (by decide) hk))]
    simp only [h3, List.length_append, Nat.le_add_right, if_true, List.drop_left, List.take_left, h]
  · next h0 =>
    rw [List.eq_nil_of_length_eq_zero (Nat.eq_zero_of_not_pos h0)]
    exact h

/-- Appendix A.2 (i): the decoder undoes the run-length coder. Invariant: the pending equal symbols
    `pre` have not been consumed by the decoder yet. -/
theorem decRun_rle (p : List Nat) : ∀ (c pre : List Nat),
    pre.length ≤ 100 → p.length = c.length → (∀ b ∈ c, b < 128) →
    decRun (pre ++ p) (rle pre.length p c) = .ok (pre ++ c) := by
  induction p with
  | nil =>
    intro c pre h100 hlen _
    rw [List.eq_nil_of_length_eq_zero hlen.symm, rle_nil_right]
    simpa using decRun_flush pre [] [] [] h100 rfl
  | cons q ps ih =>
    intro c pre h100 hlen hb
    cases c with
    | nil => cases hlen
    | cons d cs =>
      have hlen' : ps.length = cs.length := Nat.succ.inj hlen
      have ⟨hd, hcs⟩ := List.forall_mem_cons.mp hb
      rw [rle_cons_cons]
      by_cases hq : q = d
      · subst hq
        rw [if_pos rfl]
        by_cases hc : pre.length = 100
        · have := decRun_flush pre (q :: ps) (rle 1 ps cs) (q :: cs) h100
            (ih cs [q] (by decide : 1 ≤ 100) hlen' hcs)
          rw [if_pos hc]
          rwa [hc] at this ⊢
        · have := ih cs (pre ++ [q]) (by rw [List.length_append]; exact Nat.lt_of_le_of_ne h100 hc)
            hlen' hcs
          rw [if_neg hc]
          rwa [List.append_assoc, List.append_assoc, List.length_append] at this
      · rw [if_neg hq]
        refine decRun_flush pre (q :: ps) _ (d :: cs) h100 ?_
        rw [decRun, if_pos hd, show decRun (List.drop 1 (q :: ps)) (rle 0 ps cs) = .ok cs from
          ih cs [] (Nat.zero_le _) hlen' hcs]

theorem mem_rle (p : List Nat) : ∀ (c : List Nat) (cnt : Nat), cnt ≤ 100 →
    ∀ b ∈ rle cnt p c, b ∈ c ∨ 156 ≤ b := by
  induction p with
  | nil => intro c cnt h100 b hb; rw [rle_nil_left] at hb; exact .inr (mem_flush h100 hb)
  | cons q ps ih =>
    intro c cnt h100 b hb
    cases c with
    | nil => rw [rle_nil_right] at hb; exact .inr (mem_flush h100 hb)
    | cons d cs =>
      have tail {k} (hk : k ≤ 100) (hb : b ∈ rle k ps cs) : b ∈ d :: cs ∨ 156 ≤ b :=
        (ih cs k hk b hb).imp_left (List.mem_cons_of_mem d)
      rw [rle_cons_cons] at hb
      split at hb
      · split at hb
        · next hc =>
          rcases List.mem_cons.mp hb with rfl | hb
          · exact .inr (marker_ge h100)
          · exact tail (by decide) hb
        · next hc => exact tail (Nat.lt_of_le_of_ne h100 hc) hb
      · rcases List.mem_append.mp hb with hb | hb
        · exact .inr (mem_flush h100 hb)
        · rcases List.mem_cons.mp hb with rfl | hb
          · exact .inl List.mem_cons_self
          · exact tail (Nat.zero_le _) hb

/-- What an encoded component consists of: bytes of `c`, run markers, or the lone "same" marker —
    the latter only for equal components. -/
theorem mem_encField {p c : List Nat} {b : Nat} (hb : b ∈ encField p c) :
    b ∈ c ∨ 156 ≤ b ∨ (p = c ∧ b = 0x81) := by
  unfold encField at hb
  split at hb
  · next he => exact .inr (.inr ⟨he, List.mem_singleton.mp hb⟩)
  · split at hb
    · exact .inl hb
    · exact (mem_rle p c 0 (Nat.zero_le _) b hb).imp_right .inl

/-- Appendix A.2 (ii): a delta-coded component is never the "same" marker `[0x81]`: its bytes are
    literals of `c` (`< 128`) or run markers (`≥ 156`), and 0x81 = 129 is neither. -/
theorem encField_ne_same {p c : List Nat} (hc : ∀ b ∈ c, b < 128) (he : p ≠ c) :
    encField p c ≠ [0x81] := fun h => by
  rcases mem_encField (h ▸ List.mem_singleton_self 0x81 : 0x81 ∈ encField p c) with h1 | h1 | h1
  · exact absurd (hc _ h1) (by decide)
  · exact absurd h1 (by decide)
  · exact he h1.1

theorem decField_encField (p c : List Nat) (hc : ∀ b ∈ c, b < 128) :
    decField p (encField p c) = .ok c := by
  by_cases he : p = c
  · subst he; simp only [decField, encField, if_true]
  · rw [decField, if_neg (encField_ne_same hc he), encField, if_neg he]
    split
    · exact decRun_literals p c hc
    · next hl => exact decRun_rle p c [] (Nat.zero_le _) (Decidable.of_not_not hl) hc

theorem decFields_encFields (prev : List (List Nat)) : ∀ (cs : List (List Nat)),
    prev.length = cs.length → (∀ f ∈ cs, ∀ b ∈ f, b < 128) →
    decFields prev (List.zipWith encField prev cs) = .ok cs := by
  induction prev with
  | nil => intro cs hl _; rw [List.eq_nil_of_length_eq_zero hl.symm]; rfl
  | cons p ps ih =>
    intro cs hl h
    cases cs with
    | nil => cases hl
    | cons c cs =>
      have ⟨hc, hcs⟩ := List.forall_mem_cons.mp h
      rw [List.zipWith_cons_cons, decFields, decField_encField p c hc, ih cs (Nat.succ.inj hl) hcs]

/-- Appendix A.2 (iii): an encoded component contains neither the separator nor the terminator. -/
theorem mem_zipWith_encField (prev : List (List Nat)) : ∀ (cs : List (List Nat)),
    (∀ f ∈ cs, ∀ b ∈ f, b ≠ 32 ∧ b ≠ 0) →
    ∀ e ∈ List.zipWith encField prev cs, ∀ b ∈ e, b ≠ 32 ∧ b ≠ 0 := by
  induction prev with
  | nil => intro cs _ e he; exact absurd he List.not_mem_nil
  | cons p ps ih =>
    intro cs h e he
    cases cs with
    | nil => exact absurd he List.not_mem_nil
    | cons c cs =>
      have ⟨hc, hcs⟩ := List.forall_mem_cons.mp h
      rcases List.mem_cons.mp he with rfl | he
      · intro b hb
        rcases mem_encField hb with h1 | h1 | h1
        · exact hc b h1
        · exact ⟨Nat.ne_of_gt (Nat.lt_of_lt_of_le (by decide) h1),
            Nat.ne_of_gt (Nat.lt_of_lt_of_le (by decide) h1)⟩
        · exact h1.2 ▸ by decide
      · exact ih cs hcs e he

theorem mem_joinSp (fs : List (List Nat)) : ∀ b ∈ joinSp fs, b = 32 ∨ ∃ f ∈ fs, b ∈ f := by
  induction fs with
  | nil => intro b hb; exact absurd hb List.not_mem_nil
  | cons f fs ih =>
    intro b hb
    cases fs with
    | nil => exact .inr ⟨f, List.mem_cons_self, hb⟩
    | cons g gs =>
      rcases List.mem_append.mp hb with hb | hb
      · exact .inr ⟨f, List.mem_cons_self, hb⟩
      · rcases List.mem_cons.mp hb with rfl | hb
        · exact .inl rfl
        · exact (ih b hb).imp_right fun ⟨x, hx, hbx⟩ => ⟨x, List.mem_cons_of_mem _ hx, hbx⟩

/-- A well-formed name: 7-bit bytes, no NUL (the hypothesis of `names_roundtrip`). -/
def NameOk (nm : Name) : Prop := ∀ b ∈ nm, 1 ≤ b ∧ b ≤ 127

theorem NameOk.lt {nm : Name} (h : NameOk nm) : ∀ b ∈ nm, b < 128 :=
  fun b hb => Nat.lt_succ_of_le (h b hb).2

theorem NameOk.ne_zero {nm : Name} (h : NameOk nm) : ∀ b ∈ nm, b ≠ 0 :=
  fun b hb => Nat.ne_of_gt (h b hb).1

theorem NameOk.fields {nm : Name} (h : NameOk nm) :
    ∀ f ∈ splitSp nm, ∀ b ∈ f, b ≠ 32 ∧ b ≠ 0 := fun f hf b hb =>
  have h1 := mem_splitSp nm f hf b hb
  ⟨h1.2, h.ne_zero b h1.1⟩

theorem decodeSplit_encFields (prev : List (List Nat)) (nm : Name) (hn : NameOk nm)
    (hl : (splitSp nm).length = prev.length) :
    decodeSplit prev (List.zipWith encField prev (splitSp nm)) = .ok (nm, splitSp nm) := by
  rw [decodeSplit, decFields_encFields prev (splitSp nm) hl.symm
    fun f hf b hb => hn.lt b (mem_splitSp nm f hf b hb).1]
  simp only [joinSp_splitSp]
  exact if_pos (utf8Valid_ascii nm hn.lt)

theorem splitNul_encodeSplit (prev : List (List Nat)) (nm : Name) (hn : NameOk nm) (r : List Nat) :
    splitNul (encodeSplit prev (splitSp nm) ++ 0 :: r) = some (encodeSplit prev (splitSp nm), r) := by
  refine splitNul_append _ _ fun b hb => ?_
  rcases mem_joinSp _ b hb with h | ⟨e, he, hbe⟩
  · exact h ▸ (by decide)
  · exact (mem_zipWith_encField prev (splitSp nm) hn.fields e he b hbe).2

theorem splitSp_encodeSplit (prev : List (List Nat)) (nm : Name) (hn : NameOk nm)
    (hl : (splitSp nm).length = prev.length) :
    splitSp (encodeSplit prev (splitSp nm)) = List.zipWith encField prev (splitSp nm) := by
  refine splitSp_joinSp _ (fun h => ?_)
    fun e he b hbe => (mem_zipWith_encField prev (splitSp nm) hn.fields e he b hbe).1
  have := congrArg List.length h
  rw [List.length_zipWith, ← hl, Nat.min_self] at this
  exact absurd this (Nat.ne_of_gt (splitSp_length_pos nm))

/-- One name of the loop: NUL-terminated `enc`, then either branch yields `name` and the split
    that the next name is coded against. -/
theorem decContigs_succ {prev cur : List (List Nat)} {n : Nat} {d enc d1 d2 : List Nat}
    {name : Name} {rest : List Name} (h1 : splitNul d = some (enc, d1))
    (h2 : (if prev.isEmpty || (splitSp enc).length ≠ prev.length then .ok (utf8Lossy enc, splitSp enc)
      else decodeSplit prev (splitSp enc)) = .ok (name, cur))
    (h3 : decContigs cur n d1 = .ok (rest, d2)) :
    decContigs prev (n + 1) d = .ok (name :: rest, d2) := by
  rw [decContigs, h1]
  simp only [h2, h3]

theorem decContigs_encContigs (names : List Name) : ∀ (prev : List (List Nat)) (r : List Nat),
    (∀ nm ∈ names, NameOk nm) →
    decContigs prev names.length (encContigs prev names ++ r) = .ok (names, r) := by
  induction names with
  | nil => intro prev r _; rfl
  | cons nm rest ih =>
    intro prev r h
    have ⟨hn, hrest⟩ := List.forall_mem_cons.mp h
    rw [encContigs]
    by_cases hl : (splitSp nm).length = prev.length
    · -- DELTA: the field count is kept by the coding, and `prev` is not empty
      have hlen : (splitSp (encodeSplit prev (splitSp nm))).length = prev.length := by
        rw [splitSp_encodeSplit prev nm hn hl, List.length_zipWith, hl, Nat.min_self]
      have hne : prev.isEmpty = false := by
        cases prev with
        | nil => exact absurd hl (Nat.ne_of_gt (splitSp_length_pos nm))
        | cons a t => rfl
      rw [if_neg (not_not_intro hl), List.append_assoc, List.append_assoc, List.singleton_append]
      refine decContigs_succ (splitNul_encodeSplit prev nm hn _) ?_ (ih (splitSp nm) r hrest)
      rw [if_neg (by simp only [hne, hlen, ne_eq, not_true_eq_false, decide_false, Bool.or_self,
        Bool.false_eq_true, not_false_eq_true]), splitSp_encodeSplit prev nm hn hl]
      exact decodeSplit_encFields prev nm hn hl
    · -- FULL
      rw [if_pos hl, List.append_assoc, List.append_assoc, List.singleton_append]
      refine decContigs_succ (splitNul_append nm _ hn.ne_zero) ?_ (ih (splitSp nm) r hrest)
      rw [if_pos (by simp only [hl, ne_eq, not_false_eq_true, decide_true, Bool.or_true]),
        utf8Lossy_ascii nm hn.lt]

theorem decSamples_encSamples (samples : List (List Name)) : ∀ (avail : Nat) (r : List Nat),
    samples.length ≤ avail →
    (∀ s ∈ samples, s.length < 4294967296 ∧ ∀ nm ∈ s, NameOk nm) →
    decSamples samples.length avail (encSamples samples ++ r) = .ok samples := by
  induction samples with
  | nil => intro avail r _ _; rfl
  | cons s ss ih =>
    intro avail r hav h
    have ⟨hs, hss⟩ := List.forall_mem_cons.mp h
    rw [List.length_cons, encSamples, List.append_assoc, List.append_assoc, decSamples,
      decode_encode s.length hs.1]
    simp only [if_neg (Nat.ne_of_gt (Nat.lt_of_lt_of_le (Nat.succ_pos _) hav)),
      decContigs_encContigs s [] _ hs.2, ih (avail - 1) r (Nat.le_sub_one_of_lt hav) hss]

theorem decodeNames_encodeNames (samples : List (List Name)) (avail : Nat)
    (hlen : samples.length < 4294967296) (hav : samples.length ≤ avail)
    (h : ∀ s ∈ samples, s.length < 4294967296 ∧ ∀ nm ∈ s, NameOk nm) :
    decodeNames avail (encodeNames samples) = .ok samples := by
  rw [decodeNames, encodeNames, decode_encode samples.length hlen]
  simpa using decSamples_encSamples samples avail [] hav h

theorem decStrings_encStrings (names : List Name) : ∀ (r : List Nat),
    (∀ nm ∈ names, NameOk nm) → decStrings names.length (encStrings names ++ r) = some names := by
  induction names with
  | nil => intro r _; rfl
  | cons nm rest ih =>
    intro r h
    have ⟨hn, hrest⟩ := List.forall_mem_cons.mp h
    rw [List.length_cons, encStrings, List.append_assoc, decStrings,
      decodeString_encodeString nm _ hn]
    simp only [ih r hrest]

theorem decodeSampleNames_encodeSampleNames (names : List Name) (hlen : names.length < 4294967296)
    (h : ∀ nm ∈ names, NameOk nm) : decodeSampleNames (encodeSampleNames names) = some names := by
  rw [decodeSampleNames, encodeSampleNames, decode_encode names.length hlen]
  simpa using decStrings_encStrings names [] h

end Ragc.Names
