import RagcModel.Model.Splitters
/-!
The first pass of splitter selection (C11): run scanning of the sorted k-mer vector, the sort and
the binary search standing in for the library calls, the three result sets of
`determineSplitters`, and the record rules of the streaming variants.
-/
namespace Ragc.Splitters
open Ragc.Kmer

/-- Sorted in the sense of the radix sort's result. -/
abbrev Sorted (l : List UInt64) : Prop := l.Pairwise (· ≤ ·)

theorem mem_emitRun {keep : Nat → Bool} {x z : UInt64} {c : Nat} :
    z ∈ emitRun keep x c ↔ z = x ∧ keep c = true := by
  unfold emitRun
  split <;> simp [*]

/-- Membership in the result of the run scan: `z` is emitted iff the length of its run
    (`c` already counted elements for the current value `x`) satisfies `keep`. -/
theorem mem_scanRuns (keep : Nat → Bool) {ys : List UInt64} {x : UInt64} (c : Nat)
    (hs : Sorted (x :: ys)) (z : UInt64) :
    z ∈ scanRuns keep x c ys ↔
      z ∈ x :: ys ∧ keep ((if x = z then c else 0) + ys.count z) = true := by
  induction ys generalizing x c with
  | nil =>
    rw [scanRuns, mem_emitRun, List.mem_singleton]
    constructor <;> rintro ⟨rfl, h⟩ <;> simpa using h
  | cons y ys ih =>
    have hs' := hs.of_cons
    rw [scanRuns]
    split
    · next hyx =>
      -- `y = x` continues the run: `c + 1` seen and `count z ys` to come is `c` seen and
      -- `count z (x :: ys)` to come
      subst hyx
      rw [ih _ hs', List.count_cons]
      by_cases hz : y = z <;> simp [hz, Nat.add_assoc, Nat.add_comm 1]
    · next hyx =>
      -- the run of `x` is over: `x` does not occur in `y :: ys`
      have hlt := UInt64.lt_of_le_of_ne (List.rel_of_pairwise_cons hs List.mem_cons_self) (Ne.symm hyx)
      have hx : x ∉ y :: ys := fun hm => UInt64.not_le.mpr hlt
        ((List.mem_cons.mp hm).elim (fun e => e ▸ UInt64.le_refl _) (List.rel_of_pairwise_cons hs'))
      rw [List.mem_append, mem_emitRun, ih _ hs']
      by_cases hz : x = z
      · subst hz
        simp [hx, List.count_eq_zero.mpr hx]
      · simp [hz, Ne.symm hz, List.count_cons, Nat.add_comm]

/-- A scan started at the head of a sorted list emits the values whose count satisfies `keep`
    (a value that does not occur has count 0). -/
theorem mem_scanRuns_one (keep : Nat → Bool) (h0 : keep 0 = false) {x : UInt64} {xs : List UInt64}
    (hs : Sorted (x :: xs)) (z : UInt64) :
    z ∈ scanRuns keep x 1 xs ↔ keep ((x :: xs).count z) = true := by
  have e : (if x = z then 1 else 0) + xs.count z = (x :: xs).count z := by
    rw [List.count_cons, Nat.add_comm]; simp only [beq_iff_eq]
  rw [mem_scanRuns keep 1 hs, e]
  refine and_iff_right_of_imp fun hk => Decidable.byContradiction fun hz => ?_
  rw [List.count_eq_zero.mpr hz, h0] at hk
  cases hk

theorem scanRuns_strict (keep : Nat → Bool) {ys : List UInt64} {x : UInt64} (c : Nat)
    (hs : Sorted (x :: ys)) :
    (scanRuns keep x c ys).Pairwise (· < ·) ∧ ∀ z ∈ scanRuns keep x c ys, x ≤ z := by
  have hemit : ∀ x c, (emitRun keep x c).Pairwise (· < ·) := fun x c => by
    unfold emitRun; split <;> simp
  induction ys generalizing x c with
  | nil => exact ⟨hemit x c, fun z hz => (mem_emitRun.mp hz).1 ▸ UInt64.le_refl _⟩
  | cons y ys ih =>
    have hxy : x ≤ y := List.rel_of_pairwise_cons hs List.mem_cons_self
    rw [scanRuns]
    split
    · next hyx => subst hyx; exact ih _ hs.of_cons
    · next hyx =>
      obtain ⟨hp, hb⟩ := ih 1 hs.of_cons
      have hlt := UInt64.lt_of_le_of_ne hxy (Ne.symm hyx)
      refine ⟨List.pairwise_append.mpr ⟨hemit x c, hp, fun a ha b hb' => ?_⟩,
        fun z hz => ?_⟩
      · rw [(mem_emitRun.mp ha).1]
        exact UInt64.lt_of_lt_of_le hlt (hb b hb')
      · rcases List.mem_append.mp hz with h | h
        · rw [(mem_emitRun.mp h).1]; exact UInt64.le_refl _
        · exact UInt64.le_trans hxy (hb z h)

/-- Closing a run of length `c ≥ 1` in the two-output scan puts its value on exactly one side. -/
theorem closeRun2 (x : UInt64) {c : Nat} (hc : 1 ≤ c) (r : List UInt64 × List UInt64) :
    (if c = 1 then (x :: r.1, r.2) else (r.1, x :: r.2))
      = (emitRun (fun c => c == 1) x c ++ r.1, emitRun (fun c => decide (c > 1)) x c ++ r.2) := by
  unfold emitRun
  by_cases h : c = 1
  · subst h; rfl
  · have h2 : c > 1 := by omega
    simp [h, h2]

theorem scanRuns2_eq (ys : List UInt64) (x : UInt64) (c : Nat) (hc : 1 ≤ c) :
    scanRuns2 x c ys
      = (scanRuns (fun c => c == 1) x c ys, scanRuns (fun c => decide (c > 1)) x c ys) := by
  induction ys generalizing x c with
  | nil => simpa [scanRuns2, scanRuns] using closeRun2 x hc ([], [])
  | cons y ys ih =>
    rw [scanRuns2, scanRuns, scanRuns]
    split
    · exact ih x (c + 1) (by omega)
    · rw [ih y 1 (Nat.le_refl 1)]
      exact closeRun2 x hc _

theorem sortKmers_perm (l : List UInt64) : (sortKmers l).Perm l :=
  List.mergeSort_perm l _

theorem sortKmers_sorted (l : List UInt64) : Sorted (sortKmers l) :=
  (List.pairwise_mergeSort (le := fun (a b : UInt64) => decide (a ≤ b))
    (fun _ _ _ hab hbc =>
      decide_eq_true (UInt64.le_trans (of_decide_eq_true hab) (of_decide_eq_true hbc)))
    (fun a b => by simpa using UInt64.le_total a b) l).imp of_decide_eq_true

/-- The sorted permutation is unique: permuted inputs sort to the same list. -/
theorem sortKmers_congr {l₁ l₂ : List UInt64} (h : l₁.Perm l₂) : sortKmers l₁ = sortKmers l₂ :=
  List.Perm.eq_of_pairwise (fun _ _ _ _ => UInt64.le_antisymm) (sortKmers_sorted l₁)
    (sortKmers_sorted l₂) ((sortKmers_perm l₁).trans (h.trans (sortKmers_perm l₂).symm))

theorem bsearch_sound (a : Array UInt64) (x : UInt64) (lo hi : Nat)
    (h : bsearch a x lo hi = true) : x ∈ a.toList := by
  fun_induction bsearch a x lo hi with
  | case1 lo hi _ mid hm heq => exact heq ▸ Array.getElem_mem_toList hm
  | case2 _ _ _ _ _ _ _ ih => exact ih h
  | case3 _ _ _ _ _ _ _ ih => exact ih h
  | case4 => cases h
  | case5 => cases h

theorem bsearch_complete (a : Array UInt64) (x : UInt64)
    (hs : ∀ (i j : Nat) (hi : i < a.size) (hj : j < a.size), i ≤ j → a[i] ≤ a[j])
    (lo hi : Nat) (hhi : hi ≤ a.size) (i : Nat) (hi' : i < a.size) (hlo : lo ≤ i) (hih : i < hi)
    (hx : a[i] = x) : bsearch a x lo hi = true := by
  fun_induction bsearch a x lo hi with
  | case1 => rfl
  | case2 lo hi _ mid hm hne hlt ih =>
    refine ih hhi (Nat.lt_of_not_le fun g => ?_) hih
    exact UInt64.not_le.mpr hlt (hx ▸ hs i mid hi' hm g)
  | case3 lo hi _ mid hm hne hlt ih =>
    refine ih (Nat.le_of_lt hm) hlo (Nat.lt_of_not_le fun g => ?_)
    exact hlt (UInt64.lt_of_le_of_ne (hx ▸ hs mid i hm hi' g) hne)
  | case4 _ _ h _ hm =>
    -- the midpoint lies below `hi`
    exact absurd (Nat.lt_of_lt_of_le (Nat.add_lt_of_lt_sub'
      (Nat.div_lt_self (Nat.sub_pos_of_lt h) (by decide))) hhi) hm
  | case5 => omega

/-- For a sorted candidate list, `memSorted` on its array is exactly list membership
    (the behaviour of `AHashSet::contains` on the candidate set). -/
theorem memSorted_iff {l : List UInt64} (hs : Sorted l) (x : UInt64) :
    memSorted l.toArray x = true ↔ x ∈ l := by
  refine ⟨bsearch_sound _ x 0 _, fun hx => ?_⟩
  obtain ⟨i, hi, hxi⟩ := List.getElem_of_mem hx
  refine bsearch_complete _ x (fun i j hi hj hij => ?_) 0 _ (Nat.le_refl _) i hi (Nat.zero_le _)
    hi hxi
  rcases Nat.lt_or_eq_of_le hij with g | rfl
  · exact List.pairwise_iff_getElem.mp hs i j hi hj g
  · exact UInt64.le_refl _

theorem mem_removeNonSingletons {l : List UInt64} (hs : Sorted l) (z : UInt64) :
    z ∈ removeNonSingletons l ↔ l.count z = 1 := by
  cases l with
  | nil => simp [removeNonSingletons]
  | cons x xs =>
    rw [removeNonSingletons, mem_scanRuns_one _ rfl hs, beq_iff_eq]

theorem mem_duplicatesOf {l : List UInt64} (hs : Sorted l) (z : UInt64) :
    z ∈ duplicatesOf l ↔ 2 ≤ l.count z := by
  cases l with
  | nil => simp [duplicatesOf]
  | cons x xs =>
    rw [duplicatesOf, mem_scanRuns_one _ rfl hs, decide_eq_true_eq]
    exact Iff.rfl

theorem removeNonSingletons_strict {l : List UInt64} (hs : Sorted l) :
    (removeNonSingletons l).Pairwise (· < ·) := by
  cases l with
  | nil => exact List.Pairwise.nil
  | cons x xs => exact (scanRuns_strict _ 1 hs).1

theorem duplicatesOf_strict {l : List UInt64} (hs : Sorted l) :
    (duplicatesOf l).Pairwise (· < ·) := by
  cases l with
  | nil => exact List.Pairwise.nil
  | cons x xs => exact (scanRuns_strict _ 1 hs).1

theorem removeNonSingletonsWithDuplicates_eq (l : List UInt64) :
    removeNonSingletonsWithDuplicates l = (removeNonSingletons l, duplicatesOf l) := by
  cases l with
  | nil => rfl
  | cons x xs => exact scanRuns2_eq xs x 1 (Nat.le_refl 1)

theorem determineSplitters_snd (cs : List (List UInt64)) (k seg : Nat) :
    (determineSplitters cs k seg).2
      = (removeNonSingletons (sortKmers (allKmers cs k)), duplicatesOf (sortKmers (allKmers cs k))) :=
  rfl

theorem determineSplitters_fst (cs : List (List UInt64)) (k seg : Nat) :
    (determineSplitters cs k seg).1
      = cs.flatMap (findSplittersInContig
          (memSorted (removeNonSingletons (sortKmers (allKmers cs k))).toArray) k seg) :=
  rfl

/-- The splitter list is the second pass run with the from-scratch candidate predicate
    "occurs exactly once among the canonical k-mers of the reference". -/
theorem determineSplitters_fst_spec (cs : List (List UInt64)) (k seg : Nat) :
    (determineSplitters cs k seg).1
      = cs.flatMap (findSplittersInContig
          (fun v => decide ((allKmers cs k).count v = 1)) k seg) := by
  have hs := sortKmers_sorted (allKmers cs k)
  rw [determineSplitters_fst]
  refine congrArg (fun f => cs.flatMap (findSplittersInContig f k seg)) (funext fun v => ?_)
  rw [Bool.eq_iff_iff, memSorted_iff ((removeNonSingletons_strict hs).imp UInt64.le_of_lt),
    mem_removeNonSingletons hs, (sortKmers_perm _).count_eq, decide_eq_true_eq]

theorem mem_splitters_iff (cs : List (List UInt64)) (k seg : Nat) (v : UInt64) :
    v ∈ (determineSplitters cs k seg).1 ↔
      ∃ c ∈ cs, ∃ p ∈ findPicks (fun v => decide ((allKmers cs k).count v = 1)) k seg c,
        p.kmer = v := by
  rw [determineSplitters_fst_spec]
  simp only [List.mem_flatMap, findSplittersInContig, List.mem_map]

/-! ## Empty records (skipped by the streaming variants) contribute nothing -/

theorem enumerateKmers_nil (k : Nat) : enumerateKmers [] k = [] := by
  unfold enumerateKmers
  split <;> rfl

theorem flatMap_filter_nonempty {β : Type} (f : List UInt64 → List β) (hf : f [] = []) :
    ∀ (cs : List (List UInt64)), (cs.filter (fun c => !c.isEmpty)).flatMap f = cs.flatMap f := by
  intro cs
  induction cs with
  | nil => rfl
  | cons c cs ih =>
    cases c with
    | nil => simp [hf, ih]
    | cons x xs => simp [ih]

end Ragc.Splitters
