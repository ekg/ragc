import RagcModel.Model.Container
import RagcModel.Lemmas.Varint
/-! Lemmas about `Model/Container.lean`. The footer codec round-trips; the writer state is tied to
the abstract commit log by `Rel` (DESIGN Appendix A.3: every part record frames its blob inside the
bytes written so far, stable under appending); a file laid out as `close` does opens to the
writer's directory and every read answers as the log does; `Safe` says which outcomes a reader can
have (C14). -/
namespace Ragc.Container
open Ragc.Varint

@[simp] theorem Outcome.ok_bind {α β : Type} (a : α) (f : α → Outcome β) :
    (Outcome.ok a).bind f = f a := rfl
@[simp] theorem Outcome.err_bind {α β : Type} (f : α → Outcome β) :
    (Outcome.err : Outcome α).bind f = .err := rfl
@[simp] theorem Outcome.panic_bind {α β : Type} (s : String) (f : α → Outcome β) :
    (Outcome.panic s : Outcome α).bind f = .panic s := rfl
@[simp] theorem Outcome.alloc_bind {α β : Type} (n : Nat) (f : α → Outcome β) :
    (Outcome.alloc n : Outcome α).bind f = .alloc n := rfl

theorem Outcome.bind_eq_ok {α β : Type} {o : Outcome α} {f : α → Outcome β} {b : β}
    (h : o.bind f = .ok b) : ∃ a, o = .ok a ∧ f a = .ok b := by
  cases o with
  | ok a => exact ⟨a, rfl, h⟩
  | err => cases h
  | panic s => cases h
  | alloc n => cases h

instance (op : Op) : Decidable (OpOK op) := by
  cases op <;> unfold OpOK <;> infer_instance

/-- A varint reader that decodes what `writeVarint` wrote (for real `u64` values). -/
def GoodRV (rv : VarintReader) : Prop :=
  ∀ v r, v < 2 ^ 64 → rv (writeVarint v ++ r) = .ok (v, r)

theorem goodRV_readVarintO (env : Env) : GoodRV (readVarintO env) := by
  intro v r h
  simp only [readVarintO, readVarint_writeVarint v r h, countOverflows_writeVarint v r h,
    Bool.and_false, Bool.false_eq_true, if_false]

theorem goodRV_readVarintFixed : GoodRV readVarintFixed := by
  intro v r h
  simp only [readVarintFixed, readVarint_writeVarint v r h]

/-- `read_varint` takes any number of zero bytes for the value 0; with length byte 255 this is
the input on which the `u8` byte count overflows. -/
theorem readVarint_zeros (k : Nat) (r : List Nat) :
    readVarint (k :: (List.replicate k 0 ++ r)) = some (0, r) := by
  rw [readVarint]
  induction k with
  | zero => rfl
  | succ k ih => exact ih

theorem readCStr_append (name r : List Nat) (h : ∀ b ∈ name, b ≠ 0) :
    readCStr (name ++ 0 :: r) = some (name, r) := by
  induction name with
  | nil => rfl
  | cons b name ih =>
    obtain ⟨hb, hn⟩ := List.forall_mem_cons.mp h
    rw [List.cons_append, readCStr, if_neg hb, ih hn]

def PartOK (p : Part) : Prop := p.off < 2 ^ 64 ∧ p.size < 2 ^ 64

def StreamOK (st : Stream) : Prop :=
  (∀ b ∈ st.name, b ≠ 0) ∧ st.rawSize < 2 ^ 64 ∧ st.parts.length < 2 ^ 64 ∧ ∀ p ∈ st.parts, PartOK p

theorem readParts_serialize {rv : VarintReader} (hg : GoodRV rv) (ps : List Part) (r : List Nat)
    (h : ∀ p ∈ ps, PartOK p) :
    readParts rv ps.length (ps.flatMap (fun p => writeVarint p.off ++ writeVarint p.size) ++ r)
      = .ok (ps, r) := by
  induction ps with
  | nil => rfl
  | cons p ps ih =>
    obtain ⟨hp, hps⟩ := List.forall_mem_cons.mp h
    simp only [List.length_cons, readParts, List.flatMap_cons, List.append_assoc, hg _ _ hp.1,
      hg _ _ hp.2, ih hps, Outcome.ok_bind]

theorem readStreams_serialize {rv : VarintReader} (hg : GoodRV rv) (ss : List Stream) (r : List Nat)
    (h : ∀ st ∈ ss, StreamOK st) :
    readStreams rv ss.length (ss.flatMap serializeStream ++ r) = .ok (ss, r) := by
  induction ss with
  | nil => rfl
  | cons st ss ih =>
    obtain ⟨⟨hn, hr, hl, hp⟩, hss⟩ := List.forall_mem_cons.mp h
    simp only [List.length_cons, readStreams, List.flatMap_cons, serializeStream, List.append_assoc,
      List.cons_append, readCStr_append _ _ hn, hg _ _ hl, hg _ _ hr, readParts_serialize hg _ _ hp,
      ih hss, Outcome.ok_bind]

theorem parseFooter_serialize {rv : VarintReader} (hg : GoodRV rv) (ss : List Stream) (r : List Nat)
    (hlen : ss.length < 2 ^ 64) (h : ∀ st ∈ ss, StreamOK st) :
    parseFooter rv (serializeFooter ss ++ r) = .ok ss := by
  simp only [parseFooter, serializeFooter, List.append_assoc, hg _ _ hlen,
    readStreams_serialize hg _ _ h, Outcome.ok_bind]

/-- `l` and `m` have the same length and `R` holds at every index. `PartsMatch w` below is this for
`Framed w`, spelt out (`partsMatch_iff`); the streams of a writer state are related to the log's
part lists in the same way (`Rel.streams`). -/
def Pointwise {α β : Type} (R : α → β → Prop) (l : List α) (m : List β) : Prop :=
  l.length = m.length ∧ ∀ (i : Nat) (a : α) (b : β), l[i]? = some a → m[i]? = some b → R a b

namespace Pointwise
variable {α β : Type} {R R' : α → β → Prop} {l : List α} {m : List β}

theorem nil : Pointwise R [] [] := ⟨rfl, fun _ _ _ h => nomatch h⟩

theorem lookup (h : Pointwise R l m) (i : Nat) :
    (l[i]? = none ∧ m[i]? = none) ∨ ∃ a b, l[i]? = some a ∧ m[i]? = some b ∧ R a b := by
  rcases Nat.lt_or_ge i l.length with hi | hi
  · have hi' : i < m.length := h.1 ▸ hi
    exact Or.inr ⟨l[i], m[i], List.getElem?_eq_getElem hi, List.getElem?_eq_getElem hi',
      h.2 i _ _ (List.getElem?_eq_getElem hi) (List.getElem?_eq_getElem hi')⟩
  · exact Or.inl ⟨List.getElem?_eq_none hi, List.getElem?_eq_none (h.1 ▸ hi)⟩

theorem snoc (h : Pointwise R l m) {a : α} {b : β} (hab : R a b) :
    Pointwise R (l ++ [a]) (m ++ [b]) := by
  refine ⟨by simp only [List.length_append, List.length_singleton, h.1], fun i x y hx hy => ?_⟩
  rw [List.getElem?_append] at hx hy
  rw [← h.1] at hy
  by_cases hi : i < l.length
  · rw [if_pos hi] at hx hy; exact h.2 i x y hx hy
  · rw [if_neg hi] at hx hy
    cases List.mem_singleton.mp (List.mem_of_getElem? hx)
    cases List.mem_singleton.mp (List.mem_of_getElem? hy)
    exact hab

theorem modify (h : Pointwise R l m) (k : Nat) {f : α → α} {g : β → β}
    (hk : ∀ a b, R a b → R' (f a) (g b)) (hR : ∀ a b, R a b → R' a b) :
    Pointwise R' (l.modify k f) (m.modify k g) := by
  refine ⟨by simp only [List.length_modify, h.1], fun i x y hx hy => ?_⟩
  rw [List.getElem?_modify] at hx hy
  rcases h.lookup i with ⟨h1, _⟩ | ⟨a, b, h1, h2, hab⟩
  · rw [h1] at hx; cases hx
  · rw [h1] at hx; rw [h2] at hy
    cases hx; cases hy
    by_cases hki : k = i
    · simp only [hki, if_true]; exact hk a b hab
    · simp only [hki, if_false]; exact hR a b hab

theorem of_mem_left (h : Pointwise R l m) {a : α} (ha : a ∈ l) : ∃ b ∈ m, R a b := by
  obtain ⟨i, hi⟩ := List.getElem?_of_mem ha
  rcases h.lookup i with ⟨h1, _⟩ | ⟨a', b, h1, h2, hab⟩
  · rw [h1] at hi; cases hi
  · rw [h1] at hi; cases hi; exact ⟨b, List.mem_of_getElem? h2, hab⟩

theorem of_mem_right (h : Pointwise R l m) {b : β} (hb : b ∈ m) : ∃ a ∈ l, R a b := by
  obtain ⟨i, hi⟩ := List.getElem?_of_mem hb
  rcases h.lookup i with ⟨_, h2⟩ | ⟨a, b', h1, h2, hab⟩
  · rw [h2] at hi; cases hi
  · rw [h2] at hi; cases hi; exact ⟨a, List.mem_of_getElem? h1, hab⟩

end Pointwise

theorem mem_insertStable {x y : Nat × Blob} {l : List (Nat × Blob)} :
    y ∈ insertStable x l ↔ y = x ∨ y ∈ l := by
  induction l with
  | nil => simp only [insertStable, List.mem_singleton, List.not_mem_nil, or_false]
  | cons z l ih =>
    simp only [insertStable]
    split
    · exact List.mem_cons
    · rw [List.mem_cons, ih, List.mem_cons, or_left_comm]

theorem ordered_append (p : List (Nat × Blob)) (x : Nat × Blob) :
    Spec.ordered (p ++ [x]) = insertStable x (Spec.ordered p) := by
  simp only [Spec.ordered, List.foldl_append, List.foldl_cons, List.foldl_nil]

theorem pairwise_insertStable (x : Nat × Blob) (l : List (Nat × Blob))
    (h : l.Pairwise (fun u v => u.1 ≤ v.1)) :
    (insertStable x l).Pairwise (fun u v => u.1 ≤ v.1) := by
  induction l with
  | nil => exact List.pairwise_singleton _ _
  | cons y l ih =>
    have hy := List.pairwise_cons.mp h
    simp only [insertStable]
    split
    · rename_i hlt
      refine List.pairwise_cons.mpr ⟨fun z hz => ?_, h⟩
      rcases List.mem_cons.mp hz with rfl | hz
      · exact Nat.le_of_lt hlt
      · exact Nat.le_trans (Nat.le_of_lt hlt) (hy.1 z hz)
    · rename_i hge
      refine List.pairwise_cons.mpr ⟨fun z hz => ?_, ih hy.2⟩
      rcases mem_insertStable.mp hz with rfl | hz
      · exact Nat.le_of_not_lt hge
      · exact hy.1 z hz

theorem filter_insertStable (x : Nat × Blob) (l : List (Nat × Blob)) (k : Nat)
    (h : l.Pairwise (fun u v => u.1 ≤ v.1)) :
    (insertStable x l).filter (fun y => y.1 == k)
      = l.filter (fun y => y.1 == k) ++ (if x.1 == k then [x] else []) := by
  induction l with
  | nil => simp only [insertStable, List.filter_cons, List.filter_nil, List.nil_append]
  | cons y l ih =>
    have hy := List.pairwise_cons.mp h
    simp only [insertStable]
    split
    · rename_i hlt
      by_cases hk : x.1 = k
      · have hnone : (y :: l).filter (fun z => z.1 == k) = [] := by
          refine List.filter_eq_nil_iff.mpr fun z hz e => ?_
          have : y.1 ≤ z.1 := by
            rcases List.mem_cons.mp hz with rfl | hz
            · exact Nat.le_refl _
            · exact hy.1 z hz
          exact Nat.lt_irrefl k (Nat.lt_of_lt_of_le (hk ▸ hlt) (beq_iff_eq.mp e ▸ this))
        rw [List.filter_cons, hnone, hk, beq_self_eq_true, if_pos rfl, List.nil_append]
      · have hk' : ¬ (x.1 == k) = true := fun e => hk (beq_iff_eq.mp e)
        rw [List.filter_cons, if_neg hk', if_neg hk', List.append_nil]
    · rw [List.filter_cons, ih hy.2, List.filter_cons]
      split <;> rfl

/-- `Spec.ordered` (a fold of `insertStable` from `[]`) is a stable sort by stream id; stated for any
sorted accumulator, in two halves: the result is sorted … -/
theorem foldl_insertStable_pairwise (p acc : List (Nat × Blob))
    (h : acc.Pairwise (fun u v => u.1 ≤ v.1)) :
    (p.foldl (fun acc x => insertStable x acc) acc).Pairwise (fun u v => u.1 ≤ v.1) := by
  induction p generalizing acc with
  | nil => exact h
  | cons x p ih => exact ih _ (pairwise_insertStable x acc h)

/-- … and every stream `k` keeps its entries in the order they came. -/
theorem foldl_insertStable_filter (p acc : List (Nat × Blob)) (k : Nat)
    (h : acc.Pairwise (fun u v => u.1 ≤ v.1)) :
    (p.foldl (fun acc x => insertStable x acc) acc).filter (fun y => y.1 == k)
      = acc.filter (fun y => y.1 == k) ++ p.filter (fun y => y.1 == k) := by
  induction p generalizing acc with
  | nil => exact (List.append_nil _).symm
  | cons x p ih =>
    rw [List.foldl_cons, ih _ (pairwise_insertStable x acc h), filter_insertStable x acc k h,
      List.filter_cons, List.append_assoc]
    split <;> rfl

theorem mem_ordered {y : Nat × Blob} {p : List (Nat × Blob)} : y ∈ Spec.ordered p ↔ y ∈ p := by
  -- an entry is found among those of its own stream, which sorting keeps
  have h : ∀ l : List (Nat × Blob), y ∈ l.filter (fun z => z.1 == y.1) ↔ y ∈ l := fun l =>
    List.mem_filter.trans (and_iff_left (beq_self_eq_true y.1))
  rw [← h, ← h p]
  exact foldl_insertStable_filter p [] y.1 List.Pairwise.nil ▸ Iff.rfl

theorem commitLoop_frame (l : List (Nat × Blob)) (a : Spec.Log) :
    (Spec.commitLoop a l).names = a.names ∧ (Spec.commitLoop a l).pending = a.pending := by
  induction l generalizing a with
  | nil => exact ⟨rfl, rfl⟩
  | cons x l ih =>
    obtain ⟨sid, b⟩ := x
    by_cases hs : sid < a.names.length
    · simp only [Spec.commitLoop, Spec.commit, if_pos hs]; exact ih _
    · simp only [Spec.commitLoop, Spec.commit, if_neg hs, and_self]

theorem commitLoop_parts (l : List (Nat × Blob)) (a : Spec.Log) (k : Nat)
    (hlen : a.parts.length = a.names.length) (hv : ∀ x ∈ l, x.1 < a.names.length) :
    (Spec.commitLoop a l).parts.getD k []
      = a.parts.getD k [] ++ (l.filter (fun y => y.1 == k)).map (·.2) := by
  induction l generalizing a with
  | nil => exact (List.append_nil _).symm
  | cons x l ih =>
    obtain ⟨sid, b⟩ := x
    obtain ⟨hsid, hv⟩ := List.forall_mem_cons.mp hv
    simp only [Spec.commitLoop, Spec.commit, if_pos hsid]
    rw [ih { a with parts := a.parts.modify sid (· ++ [b]) }
      (by rw [List.length_modify]; exact hlen) hv]
    simp only [List.getD_eq_getElem?_getD, List.getElem?_modify, List.filter_cons]
    by_cases hk : sid = k
    · subst hk
      simp [List.getElem?_eq_getElem (hlen ▸ hsid)]
    · cases a.parts[k]? <;> simp [hk]

/-- The part record `p` frames blob `b` inside the written bytes `w`. -/
def Framed (w : List Nat) (p : Part) (b : Blob) : Prop :=
  p.size = b.1.length ∧ ∃ rest, w.drop p.off = writeVarint b.2 ++ (b.1 ++ rest)

/-- A stream's part records frame its committed blobs, in order. -/
def PartsMatch (w : List Nat) (ps : List Part) (bl : List Blob) : Prop :=
  ps.length = bl.length ∧
    ∀ (i : Nat) (p : Part) (b : Blob), ps[i]? = some p → bl[i]? = some b → Framed w p b

theorem Framed.end_lt {w : List Nat} {p : Part} {b : Blob} (h : Framed w p b) :
    p.off + p.size < w.length := by
  obtain ⟨hs, rest, hr⟩ := h
  have := congrArg List.length hr
  rw [List.length_drop, List.length_append, List.length_append, writeVarint_length, ← hs] at this
  refine Nat.lt_sub_iff_add_lt'.mp (this ▸ ?_)
  exact Nat.lt_of_le_of_lt (Nat.le_add_right _ rest.length)
    (Nat.lt_add_of_pos_left (Nat.add_pos_left Nat.one_pos _))

theorem Framed.off_lt {w : List Nat} {p : Part} {b : Blob} (h : Framed w p b) :
    p.off < w.length := Nat.lt_of_le_of_lt (Nat.le_add_right _ _) h.end_lt

theorem Framed.append {w : List Nat} {p : Part} {b : Blob} (h : Framed w p b) (e : List Nat) :
    Framed (w ++ e) p b := by
  have hlt := h.off_lt
  obtain ⟨hs, rest, hr⟩ := h
  refine ⟨hs, rest ++ e, ?_⟩
  rw [List.drop_append_of_le_length (Nat.le_of_lt hlt), hr, List.append_assoc, List.append_assoc]

theorem PartsMatch.append {w : List Nat} {ps : List Part} {bl : List Blob}
    (h : PartsMatch w ps bl) (e : List Nat) : PartsMatch (w ++ e) ps bl :=
  ⟨h.1, fun i p b hp hb => (h.2 i p b hp hb).append e⟩

theorem partsMatch_iff {w : List Nat} {ps : List Part} {bl : List Blob} :
    PartsMatch w ps bl ↔ Pointwise (Framed w) ps bl := Iff.rfl

/-- One stream record against the blobs committed to it, relative to the written bytes `w`:
the parts frame the blobs, everything the footer stores as a varint is a `u64` (the count because
every part occupies at least one byte of `w`). -/
structure StreamRel (w : List Nat) (st : Stream) (bl : List Blob) : Prop where
  parts : Pointwise (Framed w) st.parts bl
  metaOK : ∀ b ∈ bl, b.2 < 2 ^ 64
  rawOK : st.rawSize < 2 ^ 64
  cnt : st.parts.length ≤ w.length

theorem StreamRel.new (w : List Nat) (name : List Nat) : StreamRel w ⟨name, 0, []⟩ [] :=
  ⟨Pointwise.nil, fun _ h => (nomatch h), Nat.two_pow_pos 64, Nat.zero_le _⟩

section
variable {w : List Nat} {st : Stream} {bl : List Blob}

theorem StreamRel.append (h : StreamRel w st bl)
    (e : List Nat) : StreamRel (w ++ e) st bl :=
  ⟨partsMatch_iff.mp ((partsMatch_iff.mpr h.parts).append e), h.metaOK, h.rawOK, by rw [List.length_append]; exact Nat.le_add_right_of_le h.cnt⟩

theorem StreamRel.addPart (h : StreamRel w st bl)
    (d : List Nat) {m : Nat} (hm : m < 2 ^ 64) :
    StreamRel (w ++ (writeVarint m ++ d)) { st with parts := st.parts ++ [⟨w.length, d.length⟩] }
      (bl ++ [(d, m)]) := by
  have h' := h.append (writeVarint m ++ d)
  refine ⟨h'.parts.snoc ⟨rfl, [], ?_⟩, ?_, h.rawOK, ?_⟩
  · rw [List.drop_left, List.append_nil]
  · exact List.forall_mem_append.mpr ⟨h.metaOK, List.forall_mem_singleton.mpr hm⟩
  · rw [List.length_append, List.length_append, List.length_append, writeVarint_length,
      List.length_singleton]
    exact Nat.add_le_add h.cnt (Nat.le_trans (Nat.le_add_right 1 _) (Nat.le_add_right _ _))

theorem StreamRel.setRaw (h : StreamRel w st bl)
    {v : Nat} (hv : v < 2 ^ 64) : StreamRel w { st with rawSize := v } bl :=
  ⟨h.parts, h.metaOK, hv, h.cnt⟩

end

theorem findStream_eq (ss : List Stream) (name : List Nat) :
    findStream ss name =
      if name ∈ ss.map (·.name) then some ((ss.map (·.name)).idxOf name) else none := by
  induction ss with
  | nil => simp [findStream]
  | cons st ss ih =>
    simp only [findStream, List.findIdx?_cons] at ih ⊢
    by_cases h : st.name = name
    · simp [h]
    · have h' : (st.name == name) = false := by simpa using h
      have h'' : ¬ name = st.name := fun e => h e.symm
      simp only [h', Bool.false_eq_true, if_false, ih, List.map_cons, List.mem_cons, h'', false_or,
        List.idxOf_cons, cond_false]
      split <;> simp

theorem registerStream_of_mem {s : State} {name : List Nat} (h : name ∈ s.streams.map (·.name)) :
    registerStream s name = (s, (s.streams.map (·.name)).idxOf name) := by
  simp only [registerStream, findStream_eq, if_pos h]

theorem registerStream_of_not_mem {s : State} {name : List Nat}
    (h : name ∉ s.streams.map (·.name)) :
    registerStream s name =
      ({ s with streams := s.streams ++ [⟨name, 0, []⟩] }, s.streams.length) := by
  simp only [registerStream, findStream_eq, if_neg h]

theorem register_twice (s : State) (name : List Nat) :
    registerStream (registerStream s name).1 name
      = ((registerStream s name).1, (registerStream s name).2) := by
  by_cases h : name ∈ s.streams.map (·.name)
  · rw [registerStream_of_mem h, registerStream_of_mem h]
  · rw [registerStream_of_not_mem h, registerStream_of_mem (by simp),
      List.map_append, List.idxOf_append, if_neg h]
    simp

theorem map_modify_of_eq {α β : Type} (g : α → β) (f : α → α) (h : ∀ x, g (f x) = g x)
    (l : List α) (i : Nat) : (l.modify i f).map g = l.map g := by
  induction l generalizing i with
  | nil => rw [List.modify_nil]
  | cons x l ih =>
    cases i with
    | zero => rw [List.modify_zero_cons, List.map_cons, h, List.map_cons]
    | succ i => rw [List.modify_succ_cons, List.map_cons, ih, List.map_cons]

/-- The simulation relation between the writer state and the abstract log.
`names`, `off`, `streams`, `buf` say how the log is read off the state. The rest is what `close`
and the reader need later: `nodup` makes the reader's last-wins name map return the first id,
`nameOK` lets NUL terminate a name in the footer, `pendOK` is `StreamRel.metaOK` for parts still
buffered (the varint of a metadata value round-trips only below `2^64`). -/
structure Rel (s : State) (a : Spec.Log) : Prop where
  names : a.names = s.streams.map (·.name)
  nodup : a.names.Nodup
  nameOK : ∀ n ∈ a.names, ∀ b ∈ n, b ≠ 0
  off : s.fOffset = s.written.length
  streams : Pointwise (StreamRel s.written) s.streams a.parts
  buf : s.buffer = Spec.ordered a.pending
  pendOK : ∀ x ∈ a.pending, x.2.2 < 2 ^ 64

theorem Rel.init : Rel State.init Spec.Log.init :=
  ⟨rfl, List.nodup_nil, fun _ h => (nomatch h), rfl, Pointwise.nil, rfl, fun _ h => (nomatch h)⟩

section
variable {s : State} {a : Spec.Log}

theorem Rel.namesLen (h : Rel s a) : a.names.length = s.streams.length := by
  rw [h.names, List.length_map]

theorem Rel.len (h : Rel s a) : a.parts.length = s.streams.length :=
  h.streams.1.symm

theorem Rel.parts (h : Rel s a) (i : Nat) (st : Stream) (bl : List Blob)
    (hs : s.streams[i]? = some st) (hb : a.parts[i]? = some bl) : PartsMatch s.written st.parts bl :=
  partsMatch_iff.mpr (h.streams.2 i st bl hs hb).parts

theorem Rel.metaOK (h : Rel s a) :
    ∀ bl ∈ a.parts, ∀ b ∈ bl, b.2 < 2 ^ 64 := fun _ hbl =>
  let ⟨_, _, hr⟩ := h.streams.of_mem_right hbl
  hr.metaOK

/-- At any time `register_stream(name)` answers with the position of `name` in the log's name
list (the id it got when first registered), or the next free id. -/
theorem register_id_spec (h : Rel s a) (name : List Nat) :
    (registerStream s name).2 = a.names.idxOf name := by
  rw [h.names]
  by_cases hm : name ∈ s.streams.map (·.name)
  · rw [registerStream_of_mem hm]
  · rw [registerStream_of_not_mem hm, List.idxOf_eq_length hm, List.length_map]

theorem rel_register (h : Rel s a) (name : List Nat) (hn : ∀ b ∈ name, b ≠ 0) :
    Rel (registerStream s name).1 (Spec.step a (.register name)) := by
  by_cases hm : name ∈ a.names
  · simpa only [registerStream_of_mem (h.names ▸ hm), Spec.step, if_pos hm] using h
  · simp only [registerStream_of_not_mem (h.names ▸ hm), Spec.step, if_neg hm]
    refine ⟨by simp only [h.names, List.map_append, List.map_cons, List.map_nil], ?_, ?_, h.off,
      h.streams.snoc (StreamRel.new _ name), h.buf, h.pendOK⟩
    · exact List.nodup_append.mpr ⟨h.nodup, List.pairwise_singleton _ _,
        fun x hx y hy e => hm (by cases List.mem_singleton.mp hy; exact e ▸ hx)⟩
    · exact List.forall_mem_append.mpr ⟨h.nameOK, List.forall_mem_singleton.mpr hn⟩

theorem rel_addPart (h : Rel s a) (sid : Nat) (d : List Nat) {m : Nat} (hm : m < 2 ^ 64) :
    (∃ s' a', addPart s sid d m = some s' ∧ Spec.commit a sid (d, m) = some a' ∧ Rel s' a') ∨
    (addPart s sid d m = none ∧ Spec.commit a sid (d, m) = none) := by
  simp only [addPart, Spec.commit, h.namesLen]
  by_cases hs : sid < s.streams.length
  · rw [if_pos hs, if_pos hs]
    refine Or.inl ⟨_, _, rfl, rfl, ?_, h.nodup, h.nameOK, ?_, ?_, h.buf, h.pendOK⟩
    · rw [h.names, map_modify_of_eq]; exact fun _ => rfl
    · simp only [h.off, List.length_append, Nat.add_assoc]
    · rw [h.off]
      exact h.streams.modify sid (fun _ _ hr => hr.addPart d hm) (fun _ _ hr => hr.append _)
  · rw [if_neg hs, if_neg hs]; exact Or.inr ⟨rfl, rfl⟩

theorem rel_flushLoop (h : Rel s a) (l : List (Nat × Blob)) (hl : ∀ x ∈ l, x.2.2 < 2 ^ 64) :
    Rel (flushLoop s l).1 (Spec.commitLoop a l) := by
  induction l generalizing s a with
  | nil => exact h
  | cons x l ih =>
    obtain ⟨sid, d, m⟩ := x
    obtain ⟨hm, hl⟩ := List.forall_mem_cons.mp hl
    rcases rel_addPart h sid d hm with ⟨s', a', h1, h2, hr⟩ | ⟨h1, h2⟩
    · simp only [flushLoop, Spec.commitLoop, h1, h2]
      exact ih hr hl
    · simp only [flushLoop, Spec.commitLoop, h1, h2]
      exact h

theorem rel_step (h : Rel s a) (op : Op) (hop : OpOK op) :
    Rel (step s op).1 (Spec.step a op) := by
  cases op with
  | register name => exact rel_register h name hop
  | add sid d m =>
    rcases rel_addPart h sid d hop with ⟨s', a', h1, h2, hr⟩ | ⟨h1, h2⟩
    · simp only [step, Spec.step, h1, h2]; exact hr
    · simp only [step, Spec.step, h1, h2]; exact h
  | addBuf sid d m =>
    refine { h with buf := ?_, pendOK := ?_ }
    · simp only [Spec.step, ordered_append, ← h.buf]; rfl
    · exact List.forall_mem_append.mpr ⟨h.pendOK, List.forall_mem_singleton.mpr hop⟩
  | flush =>
    have h0 : Rel { s with buffer := [] } { a with pending := [] } :=
      { h with buf := rfl, pendOK := fun _ hx => absurd hx List.not_mem_nil }
    simp only [step, Spec.step, flushBuffers, h.buf]
    exact rel_flushLoop h0 _ fun x hx => h.pendOK x (mem_ordered.mp hx)
  | setRaw sid v =>
    simp only [step, Spec.step, setRawSize]
    split
    · refine { h with names := ?_, streams := ?_ }
      · rw [h.names, map_modify_of_eq]; exact fun _ => rfl
      · have := h.streams.modify (g := id) sid (fun _ _ hr => hr.setRaw hop) (fun _ _ hr => hr)
        rwa [List.modify_id] at this
    · exact h

theorem rel_runFrom (h : Rel s a) (ops : List Op) (hops : ∀ op ∈ ops, OpOK op) :
    Rel (runFrom s ops) (Spec.specFrom a ops) := by
  induction ops generalizing s a with
  | nil => exact h
  | cons op ops ih =>
    obtain ⟨hop, hops⟩ := List.forall_mem_cons.mp hops
    exact ih (rel_step h op hop) hops

end

theorem rel_run (ops : List Op) (hops : ∀ op ∈ ops, OpOK op) : Rel (run ops) (Spec.spec ops) :=
  rel_runFrom Rel.init ops hops

theorem streams_length_le_footer (ss : List Stream) : ss.length ≤ (serializeFooter ss).length := by
  have h : ss.length ≤ (ss.flatMap serializeStream).length := by
    induction ss with
    | nil => exact Nat.le_refl _
    | cons st ss ih =>
      have : 1 ≤ (serializeStream st).length := by
        rw [serializeStream, List.length_append, List.length_cons]
        exact Nat.le_trans (Nat.le_add_left 1 _) (Nat.le_add_left _ _)
      rw [List.flatMap_cons, List.length_append, List.length_cons, Nat.add_comm]
      exact Nat.add_le_add this ih
  rw [serializeFooter, List.length_append]
  exact Nat.le_trans h (Nat.le_add_left _ _)

theorem close_layout (w F : List Nat) (n : Nat) :
    (w ++ (F ++ le64 n)).length = w.length + F.length + 8 ∧
    (w ++ (F ++ le64 n)).drop (w.length + F.length) = le64 n ∧
    ((w ++ (F ++ le64 n)).drop w.length).take F.length = F := by
  refine ⟨?_, ?_, ?_⟩
  · rw [List.length_append, List.length_append, le64_length, Nat.add_assoc]
  · rw [← List.append_assoc, ← List.length_append, List.drop_left]
  · rw [List.drop_left, List.take_left]

theorem close_length (s : State) :
    (close s).length = s.written.length + (serializeFooter s.streams).length + 8 :=
  (close_layout _ _ _).1

/-- On a file laid out as `close` does, `open` parses the footer (both profiles). -/
theorem openBytes_layout (env : Env) (w F : List Nat) (hmax : env.seekMax < 2 ^ 63)
    (hfile : w.length + F.length + 8 ≤ env.seekMax) :
    openBytes env (w ++ (F ++ le64 F.length)) =
      (parseFooter (readVarintO env) F).bind fun dir =>
        .ok ⟨w ++ (F ++ le64 F.length), dir, List.replicate dir.length 0⟩ := by
  obtain ⟨hl, h1, h2⟩ := close_layout w F F.length
  -- the file fits below `seekMax < 2^63`, so every length in it is a `u64`
  obtain ⟨hF, hw, g3⟩ : F.length < 2 ^ 64 ∧ w.length < 2 ^ 64 ∧ ¬ env.seekMax < w.length := by omega
  have g4 : ¬ w.length + F.length + 8 < F.length :=
    Nat.not_lt.mpr (Nat.le_trans (Nat.le_add_left _ _) (Nat.le_add_right _ 8))
  -- `file_size - 8 - footer_size` in wrapping `u64` arithmetic is the true difference
  have hpos : (w.length + F.length + 2 ^ 64 - F.length) % 2 ^ 64 = w.length := by
    rw [Nat.add_right_comm, Nat.add_sub_cancel, Nat.add_mod_right, Nat.mod_eq_of_lt hw]
  unfold openBytes
  simp only [hl, Nat.add_sub_cancel, h1, leVal_le64 hF, hpos, h2,
    if_neg (Nat.not_lt.mpr (Nat.le_add_left 8 _)), decide_eq_false (Nat.not_lt.mpr (Nat.le_add_left _ _)),
    Bool.and_false, Bool.false_eq_true, if_false, if_neg g3, if_neg g4,
    if_neg (Nat.not_lt.mpr (Nat.le_add_right _ 8))]

/-- The same for the repaired reader, which then checks the part ranges. -/
theorem openBytesFixed_layout (seekMax : Nat) (w F : List Nat) (hF : F.length < 2 ^ 64)
    (hw : w.length ≤ seekMax) :
    openBytesFixed seekMax (w ++ (F ++ le64 F.length)) =
      (parseFooter readVarintFixed F).bind fun dir =>
        if partsInFile (w.length + F.length + 8) dir then
          .ok ⟨w ++ (F ++ le64 F.length), dir, List.replicate dir.length 0⟩
        else .err := by
  obtain ⟨hl, h1, h2⟩ := close_layout w F F.length
  unfold openBytesFixed
  simp only [hl, Nat.add_sub_cancel, h1, leVal_le64 hF, Nat.add_sub_cancel, h2,
    if_neg (Nat.not_lt.mpr (Nat.le_add_left 8 _)), if_neg (Nat.not_lt.mpr (Nat.le_add_left _ _)),
    if_neg (Nat.not_lt.mpr hw)]

theorem readPartData_framed {rv : VarintReader} (hg : GoodRV rv) {w : List Nat} {p : Part}
    {b : Blob} (hf : Framed w p b) (tail : List Nat) (seekMax : Nat)
    (hs : (w ++ tail).length ≤ seekMax) (hb : b.2 < 2 ^ 64) :
    readPartData rv seekMax (w ++ tail) p = .ok (Spec.readBack b) := by
  have hend := hf.end_lt
  have hoff := Nat.le_of_lt hf.off_lt
  obtain ⟨hsz, rest, hr⟩ := hf
  obtain ⟨d, m⟩ := b
  unfold readPartData Spec.readBack
  by_cases h0 : p.size = 0
  · cases List.eq_nil_of_length_eq_zero (hsz.symm.trans h0)
    rw [if_pos h0]; rfl
  · have hd : d.isEmpty = false := by
      cases d with
      | nil => exact absurd hsz h0
      | cons _ _ => rfl
    rw [List.length_append] at hs
    -- the part lies inside `w`, and the file fits below `seekMax`
    obtain ⟨g1, g3⟩ : ¬ seekMax < p.off ∧ ¬ w.length + tail.length < p.size := by omega
    rw [if_neg h0, if_neg g1, List.drop_append_of_le_length hoff, hr, List.append_assoc, hg _ _ hb,
      Outcome.ok_bind, List.length_append, if_neg g3, List.append_assoc, List.length_append,
      if_neg (Nat.not_lt.mpr (hsz ▸ Nat.le_add_right _ _)), hsz, List.take_left, hd]
    rfl

section
variable {s : State} {a : Spec.Log}

theorem Rel.part_in_written (h : Rel s a) :
    ∀ st ∈ s.streams, ∀ p ∈ st.parts, p.off + p.size < s.written.length := by
  intro st hst p hp
  obtain ⟨bl, _, hr⟩ := h.streams.of_mem_left hst
  obtain ⟨b, _, hf⟩ := hr.parts.of_mem_left hp
  exact hf.end_lt

theorem Rel.streamOK (h : Rel s a) (hw : s.written.length < 2 ^ 64) :
    ∀ st ∈ s.streams, StreamOK st := by
  intro st hst
  obtain ⟨bl, _, hr⟩ := h.streams.of_mem_left hst
  refine ⟨h.nameOK _ (h.names ▸ List.mem_map_of_mem hst), hr.rawOK,
    Nat.lt_of_le_of_lt hr.cnt hw, fun p hp => ?_⟩
  have := Nat.lt_trans (h.part_in_written st hst p hp) hw
  exact ⟨Nat.lt_of_le_of_lt (Nat.le_add_right _ _) this, Nat.lt_of_le_of_lt (Nat.le_add_left _ _) this⟩

theorem parseFooter_close (h : Rel s a) {rv : VarintReader} (hg : GoodRV rv)
    (hw : s.written.length < 2 ^ 64)
    (hF : (serializeFooter s.streams).length < 2 ^ 64) :
    parseFooter rv (serializeFooter s.streams) = .ok s.streams := by
  have := parseFooter_serialize hg s.streams []
    (Nat.lt_of_le_of_lt (streams_length_le_footer _) hF) (h.streamOK hw)
  rwa [List.append_nil] at this

/-- Opening the closed file yields exactly the writer's directory (both profiles). -/
theorem openBytes_close {s : State} {a : Spec.Log} (h : Rel s a) (env : Env)
    (hmax : env.seekMax < 2 ^ 63) (hfile : (close s).length ≤ env.seekMax) :
    openBytes env (close s) = .ok ⟨close s, s.streams, List.replicate s.streams.length 0⟩ := by
  rw [close_length] at hfile
  -- the whole file is below `seekMax < 2^63`, so both lengths are `u64`s
  obtain ⟨hw, hF⟩ : s.written.length < 2 ^ 64 ∧ (serializeFooter s.streams).length < 2 ^ 64 := by
    omega
  rw [close, openBytes_layout env _ _ hmax hfile, parseFooter_close h (goodRV_readVarintO env) hw hF]
  rfl

theorem partsInFile_close (h : Rel s a) :
    partsInFile (close s).length s.streams = true := by
  simp only [partsInFile, List.all_eq_true, decide_eq_true_eq, close_length]
  intro st hst p hp
  exact Nat.le_trans (Nat.le_of_lt (h.part_in_written st hst p hp))
    (Nat.le_trans (Nat.le_add_right _ _) (Nat.le_add_right _ _))

/-- The repaired reader accepts every archive the writer produces. -/
theorem openBytesFixed_close {s : State} {a : Spec.Log} (h : Rel s a) (seekMax : Nat)
    (hmax : seekMax < 2 ^ 63) (hfile : (close s).length ≤ seekMax) :
    openBytesFixed seekMax (close s) = .ok ⟨close s, s.streams, List.replicate s.streams.length 0⟩ := by
  have hp := partsInFile_close h
  rw [close_length] at hfile hp
  obtain ⟨hw, hF, hle⟩ : s.written.length < 2 ^ 64 ∧ (serializeFooter s.streams).length < 2 ^ 64 ∧
      s.written.length ≤ seekMax := by omega
  rw [close, openBytesFixed_layout seekMax _ _ hF hle, parseFooter_close h goodRV_readVarintFixed hw hF,
    Outcome.ok_bind, if_pos hp]

theorem getPartById_spec {s : State} {a : Spec.Log} (h : Rel s a) {rv : VarintReader}
    (hg : GoodRV rv) (seekMax : Nat) (hs : (close s).length ≤ seekMax) (cur : List Nat)
    (sid pid : Nat) :
    getPartByIdWith rv seekMax ⟨close s, s.streams, cur⟩ sid pid = Spec.byId a.parts sid pid := by
  unfold getPartByIdWith Spec.byId
  rcases h.streams.lookup sid with ⟨h1, h2⟩ | ⟨st, bl, h1, h2, hr⟩
  · simp only [h1, h2]
  · rcases hr.parts.lookup pid with ⟨h3, h4⟩ | ⟨p, b, h3, h4, hf⟩
    · simp only [h1, h2, h3, h4]
    · simp only [h1, h2, h3, h4]
      exact readPartData_framed hg hf _ seekMax hs (hr.metaOK b (List.mem_of_getElem? h4))

theorem getPart_spec (h : Rel s a) {rv : VarintReader} (hg : GoodRV rv) (seekMax : Nat)
    (hs : (close s).length ≤ seekMax) (cur : List Nat) (sid : Nat) :
    getPartWith rv seekMax ⟨close s, s.streams, cur⟩ sid =
      (⟨close s, s.streams, (Spec.next a.parts cur sid).1⟩, (Spec.next a.parts cur sid).2) := by
  unfold getPartWith Spec.next
  rcases h.streams.lookup sid with ⟨h1, h2⟩ | ⟨st, bl, h1, h2, hr⟩
  · simp only [h1, h2]
  · rcases hr.parts.lookup (cur.getD sid 0) with ⟨h3, h4⟩ | ⟨p, b, h3, h4, hf⟩
    · simp only [h1, h2, h3, h4]
    · simp only [h1, h2, h3, h4]
      rw [show close s = s.written ++ _ from rfl,
        readPartData_framed hg hf _ seekMax hs (hr.metaOK b (List.mem_of_getElem? h4)),
        Outcome.ok_bind]

theorem runReads_spec {s : State} {a : Spec.Log} (h : Rel s a) (env : Env)
    (hs : (close s).length ≤ env.seekMax) (cur : List Nat) (ops : List ReadOp) :
    runReads env ⟨close s, s.streams, cur⟩ ops = Spec.reads a.parts cur ops := by
  induction ops generalizing cur with
  | nil => rfl
  | cons op ops ih =>
    cases op with
    | byId sid pid =>
      rw [runReads, Spec.reads, getPartById, getPartById_spec h (goodRV_readVarintO env) _ hs, ih]
    | next sid =>
      rw [runReads, Spec.reads, getPart, getPart_spec h (goodRV_readVarintO env) _ hs, ih]

end

theorem lastIdx_not_mem (name : List Nat) (ss : List Stream) (i : Nat) (acc : Option Nat)
    (h : name ∉ ss.map (·.name)) : lastIdx name ss i acc = acc := by
  induction ss generalizing i acc with
  | nil => rfl
  | cons st ss ih =>
    rw [List.map_cons, List.mem_cons, not_or] at h
    rw [lastIdx, if_neg (by simpa using fun e => h.1 e.symm), ih _ _ h.2]

/-- `stream_map.insert` lets a later stream of the same name win; without duplicate names the last
occurrence is the only one, so the reader's id is the writer's. -/
theorem lastIdx_of_getElem? (name : List Nat) (ss : List Stream) (i k : Nat) (acc : Option Nat)
    (hnd : (ss.map (·.name)).Nodup) (hk : (ss.map (·.name))[k]? = some name) :
    lastIdx name ss i acc = some (i + k) := by
  induction ss generalizing i k acc with
  | nil => cases hk
  | cons st ss ih =>
    rw [List.map_cons, List.nodup_cons] at hnd
    cases k with
    | zero =>
      cases hk
      rw [lastIdx, if_pos (beq_self_eq_true _), lastIdx_not_mem _ _ _ _ hnd.1]; rfl
    | succ k => rw [lastIdx, ih (i + 1) k _ hnd.2 hk, Nat.add_assoc, Nat.add_comm 1]

/-- `ok` and `err` are safe; `alloc` never is; a panic is tolerated only if `q` (overflow checks
on) and it is the byte-count overflow of `read_varint`. -/
def Safe {α : Type} (q : Bool) : Outcome α → Prop
  | .ok _ => True
  | .err => True
  | .panic s => q = true ∧ s = "varint.rs:58"
  | .alloc _ => False

theorem Safe.bind {α β : Type} {q : Bool} {o : Outcome α} {f : α → Outcome β}
    (ho : Safe q o) (hf : ∀ a, Safe q (f a)) : Safe q (o.bind f) := by
  cases o with
  | ok a => exact hf a
  | err => trivial
  | panic s => exact ho
  | alloc n => exact ho

theorem Safe.ite {α : Type} {q : Bool} {c : Prop} [Decidable c] {x y : Outcome α}
    (hx : Safe q x) (hy : Safe q y) : Safe q (if c then x else y) := by
  split <;> assumption

theorem Safe.mono {α : Type} {o : Outcome α} (h : Safe false o) (q : Bool) : Safe q o := by
  cases o with
  | ok a => trivial
  | err => trivial
  | panic s => exact nomatch h.1
  | alloc n => exact h

theorem safe_false_iff {α : Type} (o : Outcome α) :
    Safe false o ↔ o = .err ∨ ∃ a, o = .ok a := by
  cases o <;> simp [Safe]

theorem safe_readVarintO (env : Env) (bs : List Nat) : Safe env.checked (readVarintO env bs) := by
  unfold readVarintO
  cases readVarint bs with
  | none => trivial
  | some x =>
    by_cases h : (env.checked && countOverflows bs) = true
    · simp only [h, if_true]; exact ⟨(Bool.and_eq_true _ _ ▸ h).1, rfl⟩
    · simp only [h]; trivial

theorem safe_readVarintFixed (bs : List Nat) : Safe false (readVarintFixed bs) := by
  unfold readVarintFixed
  cases readVarint bs <;> trivial

section
variable {q : Bool} {rv : VarintReader}

theorem safe_readParts (hrv : ∀ bs, Safe q (rv bs)) (n : Nat) (bs : List Nat) :
    Safe q (readParts rv n bs) := by
  induction n generalizing bs with
  | zero => trivial
  | succ n ih =>
    exact (hrv _).bind fun x => (hrv _).bind fun y => (ih _).bind fun z => trivial

theorem safe_readStreams (hrv : ∀ bs, Safe q (rv bs)) (n : Nat) (bs : List Nat) :
    Safe q (readStreams rv n bs) := by
  induction n generalizing bs with
  | zero => trivial
  | succ n ih =>
    rw [readStreams]
    cases readCStr bs with
    | none => trivial
    | some x =>
      exact (hrv _).bind fun np => (hrv _).bind fun raw =>
        (safe_readParts hrv _ _).bind fun ps => (ih _).bind fun ss => trivial

theorem safe_parseFooter (hrv : ∀ bs, Safe q (rv bs)) (footer : List Nat) :
    Safe q (parseFooter rv footer) :=
  (hrv _).bind fun _ => (safe_readStreams hrv _ _).bind fun _ => trivial

end

/-- With the missing range check as a hypothesis, `open` neither panics at archive.rs:382 nor
allocates more than the file. -/
theorem safe_openBytes (env : Env) (bs : List Nat)
    (h : bs.length < 8 ∨ leVal (bs.drop (bs.length - 8)) + 8 ≤ bs.length) :
    Safe env.checked (openBytes env bs) := by
  unfold openBytes
  by_cases h8 : bs.length < 8
  · simp only [if_pos h8]; trivial
  · obtain ⟨g1, g2⟩ : ¬ bs.length - 8 < leVal (bs.drop (bs.length - 8)) ∧
        ¬ bs.length < leVal (bs.drop (bs.length - 8)) := by omega
    simp only [if_neg h8, decide_eq_false g1, Bool.and_false, Bool.false_eq_true, if_false,
      if_neg g2]
    exact Safe.ite trivial (Safe.ite trivial
      ((safe_parseFooter (safe_readVarintO env) _).bind fun dir => trivial))

theorem safe_openBytesFixed (seekMax : Nat) (bs : List Nat) :
    Safe false (openBytesFixed seekMax bs) :=
  Safe.ite trivial (Safe.ite trivial (Safe.ite trivial
    ((safe_parseFooter safe_readVarintFixed _).bind fun _ => Safe.ite trivial trivial)))

theorem ok_of_ite_err {α : Type} {c : Prop} [Decidable c] {x : Outcome α} {a : α}
    (h : (if c then .err else x) = .ok a) : x = .ok a := by
  split at h
  · cases h
  · exact h

theorem openBytesFixed_ok {seekMax : Nat} {bs : List Nat} {r : Reader}
    (h : openBytesFixed seekMax bs = .ok r) :
    r.file = bs ∧ partsInFile bs.length r.dir = true := by
  obtain ⟨dir, _, h⟩ := Outcome.bind_eq_ok (ok_of_ite_err (ok_of_ite_err (ok_of_ite_err h)))
  by_cases hp : partsInFile bs.length dir = true
  · rw [if_pos hp] at h; cases h; exact ⟨rfl, hp⟩
  · rw [if_neg hp] at h; cases h

theorem partsInFile_mem {n : Nat} {dir : List Stream} (h : partsInFile n dir = true)
    {st : Stream} (hst : st ∈ dir) {p : Part} (hp : p ∈ st.parts) : p.off + p.size ≤ n := by
  simp only [partsInFile, List.all_eq_true, decide_eq_true_eq] at h
  exact h st hst p hp

theorem safe_readPartData_fixed (seekMax : Nat) (file : List Nat) (p : Part)
    (hp : p.off + p.size ≤ file.length) :
    Safe false (readPartData readVarintFixed seekMax file p) :=
  Safe.ite trivial (Safe.ite trivial ((safe_readVarintFixed _).bind fun x => by
    rw [if_neg (Nat.not_lt.mpr (Nat.le_trans (Nat.le_add_left _ _) hp))]
    exact Safe.ite trivial trivial))

theorem safe_getPartByIdFixed {seekMax : Nat} {r : Reader}
    (hr : partsInFile r.file.length r.dir = true) (sid pid : Nat) :
    Safe false (getPartByIdFixed seekMax r sid pid) := by
  unfold getPartByIdFixed getPartByIdWith
  cases hs : r.dir[sid]? with
  | none => trivial
  | some st =>
    dsimp only
    cases hp : st.parts[pid]? with
    | none => trivial
    | some p =>
      exact safe_readPartData_fixed _ _ _
        (partsInFile_mem hr (List.mem_of_getElem? hs) (List.mem_of_getElem? hp))

theorem safe_getPartFixed {seekMax : Nat} {r : Reader}
    (hr : partsInFile r.file.length r.dir = true) (sid : Nat) :
    Safe false (getPartFixed seekMax r sid).2 ∧
    (getPartFixed seekMax r sid).1.file = r.file ∧ (getPartFixed seekMax r sid).1.dir = r.dir := by
  unfold getPartFixed getPartWith
  cases hs : r.dir[sid]? with
  | none => exact ⟨trivial, rfl, rfl⟩
  | some st =>
    dsimp only
    cases hp : st.parts[r.cur.getD sid 0]? with
    | none => exact ⟨trivial, rfl, rfl⟩
    | some p =>
      exact ⟨(safe_readPartData_fixed _ _ _ (partsInFile_mem hr (List.mem_of_getElem? hs)
        (List.mem_of_getElem? hp))).bind fun b => trivial, rfl, rfl⟩

end Ragc.Container
