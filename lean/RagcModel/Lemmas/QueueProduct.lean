import RagcModel.Lemmas.Pipeline
import RagcModel.Lemmas.QueueRefine
/-!
The pipeline of `Model/Pipeline.lean` with its queue replaced by the condvar-level queue of
`Model/Queue.lean` (for C05: termination does not depend on the queue being atomic).

A product state is a pipeline state `p` (its `queue`/`closed` components become ghost copies) and a
Queue-model state `q` with `N + 1` threads: thread `0` is the producer, thread `w + 1` is worker `w`.
The transitions (`pstep`):

* `stut e` — an event of the Queue model that does not complete a call: the producer enters `push`
  with the next item of its program, an idle worker enters `pull`, a thread goes to sleep, resumes
  after a notify, or wakes up spuriously; only `q` changes;
* `push w` / `pull t x w` / `eos t` / `close` — the linearisation event `pushAdmit 0 w` /
  `pullTake (t+1) (enc x) w` / `pullEos (t+1)` / `close 0` of the Queue model together with the
  completed-call step `prod` / `pull t x` / `exit t` / `prod` of the pipeline;
* `waitEmpty` — the producer, outside the queue, sees `len() = 0` (`drain`);
* `work e` — `buffer`, `release`, `advance`: worker steps that do not touch the queue.

`enc` translates pipeline items (`ContigTask`, ordered by `taskLt`) into Queue-model items (ordered
by a `Nat` key): `EncOK` asks that it keeps sizes and, on the items of the program, the order;
`rankEnc` is such a translation for every program.

`PStep` is `pstep` as guarded actions. The invariant `PInv` says that the pipeline component is a
reachable pipeline state whose ghost queue is the queue of `q`, that `q` satisfies the invariants of
the Queue model, and (`ThreadOK`) that a thread is inside `push` / `pull` only when the producer's
next instruction is that `push` / its worker is at the top of its loop.
-/
namespace Ragc.Product
open Ragc

abbrev PItem := Pipeline.Item
abbrev QItem := Queue.Item

structure PState where
  p : Pipeline.State
  q : Queue.State
deriving DecidableEq, Repr

def init (prog : List Pipeline.Instr) (cap N : Nat) : PState :=
  ⟨Pipeline.init prog cap N, Queue.init (N + 1)⟩

inductive PEv where
  | stut (e : Queue.Event)
  | push (w : Option Nat)
  | pull (t : Nat) (x : PItem) (w : Option Nat)
  | eos (t : Nat)
  | close
  | waitEmpty
  | work (e : Pipeline.Event)
deriving DecidableEq, Repr

/-- a spurious wake-up -/
def PEv.isSpur : PEv → Bool
  | .stut e => e.isSpur
  | _ => false

/-- which non-completing Queue-model events the threads of the pipeline perform: the producer
(thread 0) starts `push` of the next item of its program, worker `w` (thread `w+1`) starts `pull`
when it is at the top of its loop; waits, wake-ups and spurious wake-ups of any thread. No `try_*`,
no second pusher, `close` only through `PEv.close`. -/
def stutOK (enc : PItem → QItem) (s : PState) : Queue.Event → Bool
  | .pushEnter t it =>
    match t, s.p.prog with
    | 0, .push x :: _ => decide (it = enc x)
    | _, _ => false
  | .pullEnter (w + 1) => decide (s.p.workers[w]? = some .idle)
  | .pushWait _ | .pushWake _ | .pushSpur _ | .pullWait _ | .pullWake _ | .pullSpur _ => true
  | _ => false

def workOK : Pipeline.Event → Bool
  | .buffer _ | .release _ | .advance _ => true
  | _ => false

/-- The transition function of the product (`none` = not enabled). The capacity is `s.p.cap`. -/
def pstep (enc : PItem → QItem) (s : PState) : PEv → Option PState
  | .stut e =>
    if stutOK enc s e = true then (Queue.step s.p.cap s.q e).map (fun q' => ⟨s.p, q'⟩) else none
  | .push w =>
    match s.p.prog with
    | .push _ :: _ =>
      (Queue.step s.p.cap s.q (.pushAdmit 0 w)).bind fun q' =>
        (Pipeline.step? true s.p .prod).map fun p' => ⟨p', q'⟩
    | _ => none
  | .pull t x w =>
    (Queue.step s.p.cap s.q (.pullTake (t + 1) (enc x) w)).bind fun q' =>
      (Pipeline.step? true s.p (.pull t x)).map fun p' => ⟨p', q'⟩
  | .eos t =>
    (Queue.step s.p.cap s.q (.pullEos (t + 1))).bind fun q' =>
      (Pipeline.step? true s.p (.exit t)).map fun p' => ⟨p', q'⟩
  | .close =>
    match s.p.prog with
    | .close :: _ =>
      (Queue.step s.p.cap s.q (.close 0)).bind fun q' =>
        (Pipeline.step? true s.p .prod).map fun p' => ⟨p', q'⟩
    | _ => none
  | .waitEmpty =>
    match s.p.prog with
    | .waitEmpty :: _ =>
      if s.q.items = [] then (Pipeline.step? true s.p .prod).map fun p' => ⟨p', s.q⟩ else none
    | _ => none
  | .work e =>
    if workOK e = true then (Pipeline.step? true s.p e).map fun p' => ⟨p', s.q⟩ else none

def prun (enc : PItem → QItem) : PState → List PEv → Option PState
  | s, [] => some s
  | s, e :: es => (pstep enc s e).bind fun s' => prun enc s' es

/-- reachable in the product -/
inductive PReach (enc : PItem → QItem) (prog : List Pipeline.Instr) (cap N : Nat) : PState → Prop where
  | init : PReach enc prog cap N (init prog cap N)
  | step {s s' : PState} {e : PEv} : PReach enc prog cap N s → pstep enc s e = some s' →
      PReach enc prog cap N s'

theorem prun_reach {enc : PItem → QItem} {prog : List Pipeline.Instr} {cap N : Nat} :
    ∀ (es : List PEv) {s s' : PState}, PReach enc prog cap N s → prun enc s es = some s' →
      PReach enc prog cap N s'
  | [], s, s', hr, h => by cases h; exact hr
  | e :: es, s, s', hr, h => by
    obtain ⟨s1, hs, h⟩ := Option.bind_eq_some_iff.mp h
    exact prun_reach es (.step hr hs) h

/-- stuck: nothing but spurious wake-ups is enabled — no thread can take a step inside its call,
start the next call of its program, or do work outside the queue -/
def Stuck (enc : PItem → QItem) (s : PState) : Prop :=
  ∀ e s', pstep enc s e = some s' → e.isSpur = true

section
variable {enc : PItem → QItem} {s s' : PState}

theorem stutOK_pushEnter {t : Nat} {it : QItem} :
    stutOK enc s (.pushEnter t it) = true ↔
      t = 0 ∧ ∃ x rest, s.p.prog = .push x :: rest ∧ it = enc x := by
  simp only [stutOK]
  split
  · next x rest hp =>
    simp only [decide_eq_true_eq, true_and]
    exact ⟨fun h => ⟨x, rest, hp, h⟩, fun ⟨_, _, hp', h⟩ => by cases hp.symm.trans hp'; exact h⟩
  · next hne =>
    exact ⟨nofun, fun ⟨ht, x, rest, hp, _⟩ => absurd hp (hne x rest ht)⟩

theorem stutOK_pullEnter {t : Nat} :
    stutOK enc s (.pullEnter t) = true ↔ ∃ w, t = w + 1 ∧ s.p.workers[w]? = some .idle := by
  cases t with
  | zero => exact ⟨nofun, nofun⟩
  | succ w =>
    exact ⟨fun h => ⟨w, rfl, of_decide_eq_true h⟩,
      fun ⟨_, hw, h⟩ => by cases hw; exact decide_eq_true h⟩

theorem stutOK_onlyPusher {e : Queue.Event} (h : stutOK enc s e = true) : Queue.OnlyPusher 0 e := by
  cases e with
  | pushEnter _ _ => exact (stutOK_pushEnter.mp h).1
  | _ => trivial

/-- The same transitions as guarded actions, each with its successor state; `pstep_sound` and
`pstep_complete` say that this is `pstep`. -/
inductive PStep (enc : PItem → QItem) (s : PState) : PEv → PState → Prop where
  | stut {e : Queue.Event} {q' : Queue.State} : stutOK enc s e = true →
      Queue.step s.p.cap s.q e = some q' → PStep enc s (.stut e) ⟨s.p, q'⟩
  | push {w : Option Nat} {x : PItem} {rest : List Pipeline.Instr} {q' : Queue.State} :
      s.p.prog = .push x :: rest → Pipeline.pushGuard true s.p x →
      Queue.step s.p.cap s.q (.pushAdmit 0 w) = some q' →
      PStep enc s (.push w) ⟨{ s.p with prog := rest, queue := s.p.queue ++ [x] }, q'⟩
  | pull {t : Nat} {x : PItem} {w : Option Nat} {q' : Queue.State} :
      s.p.workers[t]? = some .idle → Pipeline.isMax s.p.queue x →
      Queue.step s.p.cap s.q (.pullTake (t + 1) (enc x) w) = some q' →
      PStep enc s (.pull t x w)
        ⟨{ s.p with queue := s.p.queue.erase x,
                    workers := s.p.workers.set t (if x.isTok then .bar 1 else .working x.seq) }, q'⟩
  | eos {t : Nat} {q' : Queue.State} :
      s.p.workers[t]? = some .idle → s.p.closed = true → s.p.queue = [] →
      Queue.step s.p.cap s.q (.pullEos (t + 1)) = some q' →
      PStep enc s (.eos t) ⟨{ s.p with workers := s.p.workers.set t .exited }, q'⟩
  | close {rest : List Pipeline.Instr} {q' : Queue.State} : s.p.prog = .close :: rest →
      Queue.step s.p.cap s.q (.close 0) = some q' →
      PStep enc s .close ⟨{ s.p with prog := rest, closed := true }, q'⟩
  | waitEmpty {rest : List Pipeline.Instr} : s.p.prog = .waitEmpty :: rest → s.p.queue = [] →
      s.q.items = [] → PStep enc s .waitEmpty ⟨{ s.p with prog := rest }, s.q⟩
  | work {e : Pipeline.Event} {p' : Pipeline.State} : workOK e = true →
      Pipeline.step? true s.p e = some p' → PStep enc s (.work e) ⟨p', s.q⟩

theorem pstep_sound {e : PEv} (h : pstep enc s e = some s') : PStep enc s e s' := by
  cases e with
  | stut e =>
    simp only [pstep, Option.ite_none_right_eq_some, Option.map_eq_some_iff] at h
    obtain ⟨hok, q', hq, rfl⟩ := h
    exact .stut hok hq
  | push w =>
    simp only [pstep] at h
    split at h
    · next x rest hprog =>
      simp only [Option.bind_eq_some_iff, Option.map_eq_some_iff, Pipeline.step?, hprog,
        Option.ite_none_right_eq_some, Option.some.injEq] at h
      obtain ⟨q', hq, _, ⟨hg, rfl⟩, rfl⟩ := h
      exact .push hprog hg hq
    · cases h
  | pull t x w =>
    simp only [pstep, Option.bind_eq_some_iff, Option.map_eq_some_iff, Pipeline.step?,
      Option.ite_none_right_eq_some, Option.some.injEq] at h
    obtain ⟨q', hq, _, ⟨⟨hw, hm⟩, rfl⟩, rfl⟩ := h
    exact .pull hw hm hq
  | eos t =>
    simp only [pstep, Option.bind_eq_some_iff, Option.map_eq_some_iff, Pipeline.step?,
      Option.ite_none_right_eq_some, Option.some.injEq] at h
    obtain ⟨q', hq, _, ⟨⟨hw, hc, hq0⟩, rfl⟩, rfl⟩ := h
    exact .eos hw hc hq0 hq
  | close =>
    simp only [pstep] at h
    split at h
    · next rest hprog =>
      simp only [Option.bind_eq_some_iff, Option.map_eq_some_iff, Pipeline.step?, hprog,
        Option.some.injEq] at h
      obtain ⟨q', hq, _, rfl, rfl⟩ := h
      exact .close hprog hq
    · cases h
  | waitEmpty =>
    simp only [pstep] at h
    split at h
    · next rest hprog =>
      simp only [Option.ite_none_right_eq_some, Option.map_eq_some_iff, Pipeline.step?, hprog,
        Option.some.injEq] at h
      obtain ⟨hq, _, ⟨hq0, rfl⟩, rfl⟩ := h
      exact .waitEmpty hprog hq0 hq
    · cases h
  | work e =>
    simp only [pstep, Option.ite_none_right_eq_some, Option.map_eq_some_iff] at h
    obtain ⟨hok, p', hp, rfl⟩ := h
    exact .work hok hp

theorem pstep_complete {e : PEv} (h : PStep enc s e s') : pstep enc s e = some s' := by
  cases h with
  | stut hok hq => simp only [pstep, hok, ↓reduceIte, hq, Option.map_some]
  | push hprog hg hq =>
    simp only [pstep, hprog, hq, Pipeline.step?, hg, ↓reduceIte, Option.bind_some, Option.map_some]
  | pull hw hm hq =>
    simp only [pstep, hq, Pipeline.step?, hw, hm, and_self, ↓reduceIte, Option.bind_some,
      Option.map_some]
  | eos hw hc hq0 hq =>
    simp only [pstep, hq, Pipeline.step?, hw, hc, hq0, and_self, ↓reduceIte, Option.bind_some,
      Option.map_some]
  | close hprog hq => simp only [pstep, hprog, hq, Pipeline.step?, Option.bind_some, Option.map_some]
  | waitEmpty hprog hq0 hq =>
    simp only [pstep, hprog, hq, Pipeline.step?, hq0, ↓reduceIte, Option.map_some]
  | work hok hp => simp only [pstep, hok, ↓reduceIte, hp, Option.map_some]

theorem PStep.moves {e : PEv} (h : PStep enc s e s') (hsp : e.isSpur = false) :
    ∃ e s', pstep enc s e = some s' ∧ e.isSpur = false :=
  ⟨e, s', pstep_complete h, hsp⟩

theorem pstep_cases {e : PEv} (h : pstep enc s e = some s') :
    (∃ qe, e = .stut qe ∧ stutOK enc s qe = true ∧ s'.p = s.p ∧
      Queue.step s.p.cap s.q qe = some s'.q) ∨
    (∃ pe, Pipeline.step? true s.p pe = some s'.p ∧ s'.q.thr.length = s.q.thr.length) := by
  cases pstep_sound h with
  | stut hok hq => exact .inl ⟨_, rfl, hok, rfl, hq⟩
  | push hprog hg hq =>
    exact .inr ⟨_, Pipeline.step?_of_stepI (.push hprog hg), Queue.step_thr_length hq⟩
  | pull hw hm hq =>
    exact .inr ⟨_, Pipeline.step?_of_stepI (.pull hw hm), Queue.step_thr_length hq⟩
  | eos hw hc hq0 hq =>
    exact .inr ⟨_, Pipeline.step?_of_stepI (.exit hw hc hq0), Queue.step_thr_length hq⟩
  | close hprog hq =>
    exact .inr ⟨_, Pipeline.step?_of_stepI (.close hprog), Queue.step_thr_length hq⟩
  | waitEmpty hprog hq0 _ => exact .inr ⟨_, Pipeline.step?_of_stepI (.waitEmpty hprog hq0), rfl⟩
  | work _ hp => exact .inr ⟨_, hp, rfl⟩

end

structure EncOK (enc : PItem → QItem) (prog : List Pipeline.Instr) : Prop where
  size : ∀ x, (enc x).size = x.size
  key : ∀ a ∈ Pipeline.items prog, ∀ b ∈ Pipeline.items prog,
    (Pipeline.taskLt a b ↔ (enc a).prio < (enc b).prio)

/-- key of `x` = number of program items strictly below `x` (`taskLt` is a strict weak order) -/
def rankEnc (prog : List Pipeline.Instr) (x : PItem) : QItem :=
  ⟨x.seq, (Pipeline.items prog).countP (fun y => decide (Pipeline.taskLt y x)), x.size⟩

theorem countP_lt_of_imp {α} {p q : α → Bool} {l : List α} (h : ∀ x ∈ l, p x = true → q x = true)
    {a : α} (ha : a ∈ l) (hpa : p a = false) (hqa : q a = true) : l.countP p < l.countP q := by
  obtain ⟨l₁, l₂, rfl⟩ := List.append_of_mem ha
  have h₁ := List.countP_mono_left (l := l₁) fun x hx => h x (List.mem_append_left _ hx)
  have h₂ := List.countP_mono_left (l := l₂) fun x hx =>
    h x (List.mem_append_right _ (List.mem_cons_of_mem _ hx))
  simp only [List.countP_append, List.countP_cons, hpa, hqa, Bool.false_eq_true, ↓reduceIte]
  omega

/-- negative transitivity of the lexicographic order `taskLt` -/
theorem taskLt_negtrans {y a b : PItem} (h : Pipeline.taskLt y b) :
    Pipeline.taskLt y a ∨ Pipeline.taskLt a b := by
  grind [Pipeline.taskLt]

theorem rankEnc_ok (prog : List Pipeline.Instr) : EncOK (rankEnc prog) prog := by
  refine ⟨fun _ => rfl, fun a ha b hb => ?_⟩
  simp only [rankEnc]
  constructor
  · intro hab
    exact countP_lt_of_imp (a := a)
      (fun y _ hy => decide_eq_true (Pipeline.taskLt_trans (of_decide_eq_true hy) hab)) ha
      (decide_eq_false (Pipeline.taskLt_irrefl a)) (decide_eq_true hab)
  · intro hlt
    refine Classical.byContradiction fun hab => Nat.not_le.mpr hlt ?_
    exact List.countP_mono_left fun y _ hy =>
      decide_eq_true ((taskLt_negtrans (of_decide_eq_true hy)).resolve_right hab)

theorem sizeSum_map_enc {enc : PItem → QItem} (hs : ∀ x, (enc x).size = x.size) (l : List PItem) :
    Queue.sizeSum (l.map enc) = (l.map Pipeline.Item.size).sum := by
  induction l with
  | nil => rfl
  | cons a l ih => simp only [List.map_cons, Queue.sizeSum, List.sum_cons, ih, hs]

theorem perm_erase_map {enc : PItem → QItem} {l : List PItem} {items : List QItem} {x : PItem}
    (hp : (l.map enc).Perm items) (hx : x ∈ l) :
    ((l.erase x).map enc).Perm (items.erase (enc x)) := by
  have h := (((List.perm_cons_erase hx).map enc).symm.trans hp).erase (enc x)
  rwa [List.map_cons, List.erase_cons_head] at h

theorem isMax_dec {enc : PItem → QItem} {prog : List Pipeline.Instr} (henc : EncOK enc prog)
    {l : List PItem} {items : List QItem} (hp : (l.map enc).Perm items)
    (hsub : ∀ y ∈ l, y ∈ Pipeline.items prog) {it : QItem} (hm : Queue.isMax items it = true) :
    ∃ x, enc x = it ∧ Pipeline.isMax l x := by
  rw [Queue.isMax_iff] at hm
  obtain ⟨x, hx, rfl⟩ := List.mem_map.mp (hp.mem_iff.mpr hm.1)
  refine ⟨x, rfl, hx, fun y hy => ?_⟩
  have := hm.2 (enc y) (hp.mem_iff.mp (List.mem_map_of_mem hy))
  rw [henc.key x (hsub x hx) y (hsub y hy)]
  omega

/-- weights for the product: a thread outside the queue 5 (it may still start its next call),
notified 4, evaluating its loop condition 3, asleep 2 -/
def wt2 : Queue.TStatus → Nat
  | .idle => 5
  | .notifNF _ | .notifNE => 4
  | .pushing _ | .pulling => 3
  | .waitNF _ | .waitNE => 2

def mu2 (q : Queue.State) : Nat := (q.thr.map wt2).sum

/-- the potential of the product: the pipeline potential `Φ` of C05 first, the thread statuses second -/
def M (s : PState) : Nat := Pipeline.Φ s.p * (5 * s.q.thr.length + 1) + mu2 s.q

theorem mu2_le (q : Queue.State) : mu2 q ≤ 5 * q.thr.length :=
  ListFacts.sum_map_le (fun a => by cases a <;> exact Nat.le_of_ble_eq_true rfl) q.thr

/-- What thread `t` of the Queue model may be doing next to the pipeline state `p`: only the
producer (thread 0) is inside `push`, and only with the item its program pushes next; only the
thread of a worker at the top of its loop is inside `pull`. It depends on the status only through
`item?` and `inPull`, which waiting, being notified and resuming leave alone. -/
def ThreadOK (enc : PItem → QItem) (p : Pipeline.State) (t : Nat) (st : Queue.TStatus) : Prop :=
  (∀ it, st.item? = some it → t = 0 ∧ ∃ x rest, p.prog = .push x :: rest ∧ it = enc x) ∧
  (st.inPull = true → ∃ w, t = w + 1 ∧ p.workers[w]? = some .idle)

section threadOK
variable {enc : PItem → QItem} {p p' : Pipeline.State} {t : Nat} {a b st : Queue.TStatus}

theorem threadOK_idle : ThreadOK enc p t .idle := ⟨nofun, nofun⟩

theorem ThreadOK.congr (h : ThreadOK enc p t a) (hi : b.item? = a.item?)
    (hp : b.inPull = a.inPull) : ThreadOK enc p t b :=
  ⟨hi ▸ h.1, hp ▸ h.2⟩

theorem ThreadOK.mono (h : ThreadOK enc p t st)
    (hprog : t = 0 → ∀ x rest, p.prog = .push x :: rest → p'.prog = .push x :: rest)
    (hw : ∀ w, t = w + 1 → p.workers[w]? = some .idle → p'.workers[w]? = some .idle) :
    ThreadOK enc p' t st :=
  ⟨fun it hit => let ⟨h0, x, rest, hp, hx⟩ := h.1 it hit; ⟨h0, x, rest, hprog h0 x rest hp, hx⟩,
   fun hin => let ⟨w, ht, hidle⟩ := h.2 hin; ⟨w, ht, hw w ht hidle⟩⟩

theorem ThreadOK.final (h : ThreadOK enc p t st) (hf : Pipeline.Final p) : st = .idle := by
  refine Queue.idle_of_outside ?_ ?_
  · refine Option.eq_none_iff_forall_ne_some.mpr fun it hit => ?_
    obtain ⟨_, _, _, hp, _⟩ := h.1 it hit
    cases hf.1 ▸ hp
  · refine Bool.eq_false_iff.mpr fun hin => ?_
    obtain ⟨w, _, hw⟩ := h.2 hin
    cases hf.2.2 _ (List.mem_of_getElem? hw)

theorem threadOK_set {thr : List Queue.TStatus}
    (hs : ∀ u st, thr[u]? = some st → ThreadOK enc p u st) (hb : ThreadOK enc p t b) :
    ∀ u st, (thr.set t b)[u]? = some st → ThreadOK enc p u st := by
  intro u st hu
  rcases Queue.get_set hu with ⟨rfl, rfl⟩ | ⟨_, h⟩
  · exact hb
  · exact hs u st h

/-- A Queue-model event that completes a call (the acting thread ends outside the queue), taken
together with a pipeline step that keeps `ThreadOK` of the other threads: a `notify` that comes
with the event moves a sleeper to `notified`, which `ThreadOK` does not see. -/
theorem threadOK_step {cap : Nat} {q q' : Queue.State} {e : Queue.Event}
    (hq : Queue.step cap q e = some q') (hends : e.ends = true)
    (hs : ∀ u st, q.thr[u]? = some st → ThreadOK enc p u st)
    (hp : ∀ u st, u ≠ e.tid → ThreadOK enc p u st → ThreadOK enc p' u st) :
    ∀ u st, q'.thr[u]? = some st → ThreadOK enc p' u st := by
  intro u st' hu
  obtain ⟨_, rfl⟩ | ⟨hne, st, hst, rfl | rfl⟩ := Queue.step_ends_thr hq hends hu
  · exact threadOK_idle
  · exact hp u _ hne (hs u _ hst)
  · exact (hp u st hne (hs u st hst)).congr (Queue.wakeAll_item st) (Queue.wakeAll_inPull st)

end threadOK

/-- What a `stut` transition does: one thread changes its own status from `a` to `b`, staying
inside its call or starting the call `stutOK` lets it start; unless it is a spurious wake-up the
weight of the thread goes down. -/
theorem stut_effect {enc : PItem → QItem} {s : PState} {cap : Nat} {e : Queue.Event}
    {q' : Queue.State} (hok : stutOK enc s e = true) (hq : Queue.step cap s.q e = some q') :
    ∃ a b, s.q.thr[e.tid]? = some a ∧ q' = s.q.setT e.tid b ∧ b ≠ .idle ∧
      (ThreadOK enc s.p e.tid a → ThreadOK enc s.p e.tid b) ∧ (e.isSpur = false → wt2 b < wt2 a) := by
  cases Queue.step_sound hq with
  | pushEnter ht =>
    obtain ⟨rfl, hx⟩ := stutOK_pushEnter.mp hok
    exact ⟨_, _, ht, rfl, nofun, fun _ => ⟨fun _ h => by cases h; exact ⟨rfl, hx⟩, nofun⟩,
      fun _ => Nat.le_of_ble_eq_true rfl⟩
  | pullEnter ht =>
    exact ⟨_, _, ht, rfl, nofun, fun _ => ⟨nofun, fun _ => stutOK_pullEnter.mp hok⟩,
      fun _ => Nat.le_of_ble_eq_true rfl⟩
  | pushWait ht _ _ _ | pushWake ht | pullWait ht _ _ | pullWake ht =>
    exact ⟨_, _, ht, rfl, nofun, fun h => h.congr rfl rfl, fun _ => Nat.le_of_ble_eq_true rfl⟩
  | pushSpur ht | pullSpur ht => exact ⟨_, _, ht, rfl, nofun, fun h => h.congr rfl rfl, nofun⟩
  | _ => cases hok

theorem reach_frame {fx : Bool} {prog : List Pipeline.Instr} {cap N : Nat} {p : Pipeline.State}
    (h : Pipeline.Reachable fx prog cap N p) :
    p.cap = cap ∧ p.workers.length = N ∧
      ∀ x, x ∈ p.queue ∨ x ∈ Pipeline.items p.prog → x ∈ Pipeline.items prog := by
  induction h with
  | init => exact ⟨rfl, List.length_replicate, fun _ hx => hx.elim nofun id⟩
  | step _ hs ih =>
    obtain ⟨hc, hl, hsub⟩ := ih
    obtain ⟨e, he⟩ := hs
    cases Pipeline.stepI_of_step? he with
    | push hp _ =>
      refine ⟨hc, hl, fun y hy => hsub y ?_⟩
      simpa only [hp, Pipeline.items, List.mem_append, List.mem_cons, List.not_mem_nil, or_false,
        or_assoc] using hy
    | waitEmpty hp _ | close hp => exact ⟨hc, hl, fun y hy => hsub y (hp ▸ hy)⟩
    | pull _ _ =>
      exact ⟨hc, List.length_set.trans hl, fun y hy => hsub y (hy.imp_left List.mem_of_mem_erase)⟩
    | exit _ _ _ | buffer _ | advance _ _ _ | advance4 _ => exact ⟨hc, List.length_set.trans hl, hsub⟩
    | release1 _ _ | release _ _ _ _ => exact ⟨hc, (List.length_map _).trans hl, hsub⟩

theorem Φ_final {p : Pipeline.State} (hf : Pipeline.Final p) : Pipeline.Φ p = 0 := by
  rw [Pipeline.Φ_eq, Pipeline.tally_final hf rfl, hf.1]; rfl

structure PInv (enc : PItem → QItem) (prog : List Pipeline.Instr) (cap N : Nat) (s : PState) :
    Prop where
  /-- safety: the pipeline component is a reachable state of the completed-call model -/
  reach : Pipeline.Reachable true prog cap N s.p
  /-- the Queue-model component satisfies the invariants of `Lemmas/Queue.lean`: data and history
  (`a`), close and wake-ups on `not_empty` (`b`), the single producer (thread 0) on `not_full`
  (`d`) -/
  a : Queue.InvA cap s.q
  b : Queue.InvB s.q
  d : Queue.InvD cap 0 s.q
  /-- the ghost queue of the pipeline component is the queue of the Queue model -/
  perm : (s.p.queue.map enc).Perm s.q.items
  closed_eq : s.p.closed = s.q.closed
  len : s.q.thr.length = N + 1
  /-- the calls in progress in `q` are calls the pipeline component is about to complete -/
  sync : ∀ t st, s.q.thr[t]? = some st → ThreadOK enc s.p t st

section
variable {enc : PItem → QItem} {prog : List Pipeline.Instr} {cap N : Nat} {s : PState}

theorem PInv.cap_eq (hi : PInv enc prog cap N s) : s.p.cap = cap := (reach_frame hi.reach).1

theorem pinv_q (hi : PInv enc prog cap N s) {e : Queue.Event} {q' : Queue.State}
    (hs : Queue.step cap s.q e = some q') (hp : Queue.OnlyPusher 0 e) :
    Queue.InvA cap q' ∧ Queue.InvB q' ∧ Queue.InvD cap 0 q' ∧ q'.thr.length = N + 1 :=
  ⟨Queue.InvA_step hi.a hs, Queue.InvB_step hi.b hs, Queue.InvD_step hi.d hp hs,
    (Queue.step_thr_length hs).trans hi.len⟩

theorem set_keeps_idle {l : List Pipeline.WState} {w w' : Nat} {v : Pipeline.WState}
    (h : l[w']? = some .idle) (hv : w = w' → v = .idle) : (l.set w v)[w']? = some .idle := by
  by_cases hw : w = w'
  · rw [hw, hv hw, List.getElem?_set_self (List.getElem?_eq_some_iff.mp h).1]
  · rw [List.getElem?_set_ne hw, h]

theorem work_effect {p p' : Pipeline.State} {e : Pipeline.Event} (hok : workOK e = true)
    (h : Pipeline.step? true p e = some p') :
    p'.prog = p.prog ∧ p'.queue = p.queue ∧ p'.closed = p.closed ∧
    (∀ w : Nat, p.workers[w]? = some Pipeline.WState.idle →
      p'.workers[w]? = some Pipeline.WState.idle) := by
  cases Pipeline.stepI_of_step? h with
  | buffer _ | advance4 _ => exact ⟨rfl, rfl, rfl, fun w h => set_keeps_idle h (fun _ => rfl)⟩
  | release1 _ hall | release _ _ _ hall =>
    exact ⟨rfl, rfl, rfl, fun w h => nomatch hall _ (List.mem_of_getElem? h)⟩
  | advance hw _ _ =>
    exact ⟨rfl, rfl, rfl, fun w' h =>
      set_keeps_idle h (fun hww => by subst hww; cases hw.symm.trans h)⟩
  | _ => cases hok

/-- A linearisation point: a Queue-model event that completes the call of its thread, taken
together with the pipeline step of that call. -/
theorem pinv_complete (hi : PInv enc prog cap N s) {e : Queue.Event} {q' : Queue.State}
    {pe : Pipeline.Event} {p' : Pipeline.State} (hq : Queue.step cap s.q e = some q') (hends : e.ends = true)
    (hop : Queue.OnlyPusher 0 e) (hp : Pipeline.StepI true s.p pe p')
    (hperm : (p'.queue.map enc).Perm q'.items) (hcl : p'.closed = q'.closed)
    (hthr : ∀ u st, u ≠ e.tid → ThreadOK enc s.p u st → ThreadOK enc p' u st) :
    PInv enc prog cap N ⟨p', q'⟩ :=
  have ⟨hA, hB, hD, hlen⟩ := pinv_q hi hq hop
  ⟨.step hi.reach ⟨_, Pipeline.step?_of_stepI hp⟩, hA, hB, hD, hperm, hcl, hlen,
    threadOK_step hq hends hi.sync hthr⟩

theorem pinv_step {s' : PState} {e : PEv} (hi : PInv enc prog cap N s) (h : pstep enc s e = some s') :
    PInv enc prog cap N s' := by
  obtain rfl := hi.cap_eq
  -- worker `t` leaves the top of its loop while its thread `t + 1` completes a call
  have leave : ∀ {t : Nat} {v : Pipeline.WState} {p' : Pipeline.State} {u : Nat}
      {st : Queue.TStatus}, p'.prog = s.p.prog → p'.workers = s.p.workers.set t v → u ≠ t + 1 →
      ThreadOK enc s.p u st → ThreadOK enc p' u st :=
    fun hp hw hu h => h.mono (fun _ _ _ h => hp ▸ h) fun w huw h => by
      rw [hw, List.getElem?_set_ne (fun htw => hu (by rw [huw, htw])), h]
  cases pstep_sound h with
  | stut hok hq =>
    obtain ⟨a, b, ha, rfl, -, hab, -⟩ := stut_effect hok hq
    obtain ⟨hA, hB, hD, hlen⟩ := pinv_q hi hq (stutOK_onlyPusher hok)
    exact ⟨hi.reach, hA, hB, hD, hi.perm, hi.closed_eq, hlen,
      threadOK_set hi.sync (hab (hi.sync _ _ ha))⟩
  | @push w x rest q' hprog hg hq =>
    obtain ⟨a, hthr, hpre, h⟩ := Queue.step_lin (Queue.step_sound hq)
    cases a <;> cases hpre
    obtain ⟨-, l, rfl⟩ := h
    obtain ⟨-, x', rest', hprog', rfl⟩ := (hi.sync 0 _ hthr).1 _ rfl
    cases hprog.symm.trans hprog'
    refine pinv_complete hi hq rfl trivial (.push hprog hg) ?_ hi.closed_eq
      fun u st hu h => h.mono (fun h0 => absurd h0 hu) (fun _ _ h => h)
    rw [List.map_append]
    exact (List.perm_append_singleton _ _).trans (hi.perm.cons _)
  | pull hw hm hq =>
    obtain ⟨-, -, -, -, l, rfl⟩ := Queue.step_lin (Queue.step_sound hq)
    exact pinv_complete hi hq rfl trivial (.pull hw hm) (perm_erase_map hi.perm hm.1)
      hi.closed_eq fun _ _ => leave rfl rfl
  | eos hw hc hq0 hq =>
    obtain ⟨-, -, -, -, l, rfl⟩ := Queue.step_lin (Queue.step_sound hq)
    exact pinv_complete hi hq rfl trivial (.exit hw hc hq0) hi.perm hi.closed_eq
      fun _ _ => leave rfl rfl
  | close hprog hq =>
    obtain ⟨-, -, -, -, l, rfl⟩ := Queue.step_lin (Queue.step_sound hq)
    exact pinv_complete hi hq rfl trivial (.close hprog) hi.perm rfl
      fun u st hu h => h.mono (fun h0 => absurd h0 hu) (fun _ _ h => h)
  | waitEmpty hprog hq0 _ =>
    exact ⟨.step hi.reach ⟨_, Pipeline.step?_of_stepI (.waitEmpty hprog hq0)⟩, hi.a, hi.b, hi.d,
      hi.perm, hi.closed_eq, hi.len, fun t st ht =>
        (hi.sync t st ht).mono (fun _ _ _ hp => nomatch hprog.symm.trans hp) (fun _ _ h => h)⟩
  | work hok hp =>
    obtain ⟨h1, h2, h3, h4⟩ := work_effect hok hp
    exact ⟨.step hi.reach ⟨_, hp⟩, hi.a, hi.b, hi.d, h2 ▸ hi.perm, h3 ▸ hi.closed_eq, hi.len,
      fun t st ht => (hi.sync t st ht).mono (fun _ _ _ h => h1 ▸ h) (fun w _ h => h4 w h)⟩

theorem pinv_reach {enc : PItem → QItem} {prog : List Pipeline.Instr} {cap N : Nat} {s : PState}
    (h : PReach enc prog cap N s) : PInv enc prog cap N s := by
  induction h with
  | init =>
    refine ⟨.init, Queue.InvA_init _ _, Queue.InvB_init _, Queue.InvD_init _ _ _, .refl _, rfl,
      List.length_replicate, fun t st h => ?_⟩
    rw [(List.mem_replicate.mp (List.mem_of_getElem? h)).2]
    exact threadOK_idle
  | step _ hs ih => exact pinv_step ih hs

theorem pinv_cur {enc : PItem → QItem} {prog : List Pipeline.Instr} {cap N : Nat} {s : PState}
    (henc : EncOK enc prog) (hi : PInv enc prog cap N s) : s.p.cur = s.q.cur := by
  rw [Pipeline.State.cur, ← sizeSum_map_enc henc.size, Queue.sizeSum_perm hi.perm, hi.a.cur_eq]

theorem pinv_empty (hi : PInv enc prog cap N s) : s.p.queue = [] ↔ s.q.items = [] :=
  ⟨fun h => (h ▸ hi.perm).symm.eq_nil, fun h => List.map_eq_nil_iff.mp (h ▸ hi.perm).eq_nil⟩

theorem pushGuard_iff (henc : EncOK enc prog) (hi : PInv enc prog cap N s) (x : PItem) :
    Pipeline.pushGuard true s.p x ↔
      (s.q.cur + (enc x).size ≤ cap ∨ s.q.items = []) ∧ s.q.closed = false := by
  rw [Pipeline.pushGuard, pinv_cur henc hi, hi.cap_eq, henc.size, pinv_empty hi, hi.closed_eq]
  exact ⟨fun ⟨hc, h⟩ => ⟨h.imp_right And.right, hc⟩,
    fun ⟨h, hc⟩ => ⟨hc, h.imp_right fun h => ⟨rfl, h⟩⟩⟩

/-- The product hides nothing: every step of a call in progress that the Queue model allows is a
transition of the product, spurious iff the event is. `hopen` excludes `pushRefuse`, a `push` onto
a closed queue, for which the pipeline model has no transition. -/
theorem faithful (henc : EncOK enc prog) (hi : PInv enc prog cap N s) {e : Queue.Event}
    {q' : Queue.State} (hs : Queue.step cap s.q e = some q') (hns : e.isStart = false)
    (hopen : ∀ it, s.q.thr[e.tid]? = some (.pushing it) → s.q.closed = false) :
    ∃ pe p', pstep enc s pe = some ⟨p', q'⟩ ∧ pe.isSpur = e.isSpur := by
  obtain rfl := hi.cap_eq
  have stut : stutOK enc s e = true →
      ∃ pe p', pstep enc s pe = some ⟨p', q'⟩ ∧ pe.isSpur = e.isSpur :=
    fun hok => ⟨.stut e, _, pstep_complete (.stut hok hs), rfl⟩
  cases Queue.step_sound hs with
  | pushWait _ _ _ _ | pushWake _ | pushSpur _ | pullWait _ _ _ | pullWake _ | pullSpur _ =>
    exact stut rfl
  | pushRefuse ht hcl => cases (hopen _ ht).symm.trans hcl
  | pushAdmit ht hfit hcl hn =>
    obtain ⟨rfl, x, r, hp, rfl⟩ := (hi.sync _ _ ht).1 _ rfl
    exact ⟨.push _, _,
      pstep_complete (.push hp ((pushGuard_iff henc hi x).mpr ⟨hfit, hcl⟩) hs), rfl⟩
  | pullEos ht he hcl =>
    obtain ⟨w, rfl, hw⟩ := (hi.sync _ _ ht).2 rfl
    exact ⟨.eos w, _,
      pstep_complete (.eos hw (hi.closed_eq.trans hcl) ((pinv_empty hi).mpr he) hs), rfl⟩
  | pullTake ht hm hmax hn =>
    obtain ⟨w, rfl, hw⟩ := (hi.sync _ _ ht).2 rfl
    obtain ⟨x, rfl, hmx⟩ := isMax_dec henc hi.perm
      (fun y hy => (reach_frame hi.reach).2.2 y (.inl hy)) (Queue.isMax_iff.mpr ⟨hm, hmax⟩)
    exact ⟨.pull w x _, _, pstep_complete (.pull hw hmx hs), rfl⟩
  | _ => cases hns

theorem product_faithful {enc : PItem → QItem} {prog : List Pipeline.Instr} {cap N : Nat}
    {s : PState} (henc : EncOK enc prog) (hwf : Pipeline.WellFormedShape N prog)
    (hi : PInv enc prog cap N s) {e : Queue.Event} {q' : Queue.State}
    (hs : Queue.step cap s.q e = some q') (hns : e.isStart = false) :
    ∃ pe p', pstep enc s pe = some ⟨p', q'⟩ :=
  have ⟨pe, p', h, _⟩ := faithful henc hi hs hns fun it ht => by
    -- a well-formed program has nothing left to push once it has closed the queue
    obtain ⟨_, x, r, hp, _⟩ := (hi.sync _ _ ht).1 it rfl
    refine Bool.eq_false_iff.mpr fun hc => ?_
    have h5 := Pipeline.inv5_reachable (fx := true) hwf nofun hi.reach
    cases hp.symm.trans (h5.closedProg (hi.closed_eq.trans hc))
  ⟨pe, p', h⟩

/-- A thread that is inside a call and not asleep has an enabled step of its own in the Queue model
(`Queue.own_step_awake`), hence a non-spurious transition in the product. -/
theorem awake_moves (henc : EncOK enc prog) (hi : PInv enc prog cap N s) {t : Nat}
    {st : Queue.TStatus} (ht : s.q.thr[t]? = some st) (hin : st ≠ .idle)
    (h1 : st.isWaitNF = false) (h2 : st.isWaitNE = false)
    (hopen : ∀ it, st = .pushing it → s.q.closed = false) :
    ∃ e s', pstep enc s e = some s' ∧ e.isSpur = false := by
  obtain ⟨e, q', rfl, hint, hs⟩ := Queue.own_step_awake cap ht hin h1 h2
  obtain ⟨hsp, hst⟩ : e.isSpur = false ∧ e.isStart = false := by
    simpa [Queue.Event.isInternal] using hint
  obtain ⟨pe, p', h, hpe⟩ := faithful henc hi hs hst fun it h =>
    hopen it (Option.some.inj (ht.symm.trans h))
  exact ⟨pe, _, h, hpe.trans hsp⟩

/-- a worker at the top of its loop, while the completed-call model lets it pull an item or exit,
is not stuck in the product: it or — when it sleeps — a consumer to which the wake-up went can move
(`Queue.sleeping_consumer`) -/
theorem worker_moves (henc : EncOK enc prog) (hi : PInv enc prog cap N s) {w : Nat}
    (hw : s.p.workers[w]? = some .idle)
    (hen : s.p.queue ≠ [] ∨ (s.p.closed = true ∧ s.p.queue = [])) :
    ∃ e s', pstep enc s e = some s' ∧ e.isSpur = false := by
  have hwN : w + 1 < s.q.thr.length := by
    rw [hi.len, ← (reach_frame hi.reach).2.1]
    exact Nat.succ_lt_succ (List.getElem?_eq_some_iff.mp hw).1
  have hu : s.q.thr[w + 1]? = some (s.q.thr[w + 1]) := List.getElem?_eq_getElem hwN
  generalize s.q.thr[w + 1] = st at hu
  cases st with
  | idle =>
    exact (PStep.stut (stutOK_pullEnter.mpr ⟨w, rfl, hw⟩)
      (Queue.step_complete (.pullEnter hu))).moves rfl
  | pulling | notifNE => exact awake_moves henc hi hu nofun rfl rfl nofun
  | waitNE =>
    obtain ⟨hopen, -, he | ⟨u, stu, -, -, -, hu', hst, -⟩⟩ := Queue.sleeping_consumer cap hi.b hu
    · have hq0 := (pinv_empty hi).mpr he
      rcases hen with hne | ⟨hcl, _⟩
      · exact absurd hq0 hne
      · cases (hi.closed_eq.symm.trans hcl).symm.trans hopen
    · rcases hst with rfl | rfl <;> exact awake_moves henc hi hu' nofun rfl rfl nofun
  | pushing it | waitNF it | notifNF it => exact nomatch ((hi.sync _ _ hu).1 it rfl).1

theorem producer_status (hi : PInv enc prog cap N s) :
    ∃ st, s.q.thr[0]? = some st ∧ st.inPull = false ∧
      ∀ it, st.item? = some it → ∃ x rest, s.p.prog = .push x :: rest ∧ it = enc x := by
  have hl : 0 < s.q.thr.length := hi.len ▸ Nat.succ_pos N
  have h0 : s.q.thr[0]? = some s.q.thr[0] := List.getElem?_eq_getElem hl
  refine ⟨_, h0, ?_, fun it hit => ((hi.sync 0 _ h0).1 it hit).2⟩
  exact Bool.eq_false_iff.mpr fun hin => let ⟨_, hw, _⟩ := (hi.sync 0 _ h0).2 hin; nomatch hw

/-- while the completed-call model lets the producer complete its `push`, it can move in the
product: it is never asleep then (`Queue.InvD.wait`, the invariant behind C06
`no_lost_wakeup_not_full_single`) -/
theorem producer_push_moves (henc : EncOK enc prog) (hi : PInv enc prog cap N s) {x : PItem}
    {rest : List Pipeline.Instr} (hp : s.p.prog = .push x :: rest)
    (hg : Pipeline.pushGuard true s.p x) :
    ∃ e s', pstep enc s e = some s' ∧ e.isSpur = false := by
  obtain ⟨st, h0, hin, hitem⟩ := producer_status hi
  have hguard := (pushGuard_iff henc hi x).mp hg
  cases st with
  | idle =>
    exact (PStep.stut (stutOK_pushEnter.mpr ⟨rfl, x, rest, hp, rfl⟩)
      (Queue.step_complete (.pushEnter h0))).moves rfl
  | pushing it | notifNF it => exact awake_moves henc hi h0 nofun rfl rfl fun _ _ => hguard.2
  | waitNF it =>
    obtain ⟨x', r', hp', rfl⟩ := hitem it rfl
    cases hp.symm.trans hp'
    obtain ⟨h1, h2, _⟩ := hi.d.wait 0 _ h0
    exact (hguard.1.elim (fun h => absurd h (Nat.not_le.mpr h1)) h2).elim
  | pulling | waitNE | notifNE => cases hin

theorem producer_idle (hi : PInv enc prog cap N s) (hnp : ∀ x rest, s.p.prog ≠ .push x :: rest) :
    s.q.thr[0]? = some .idle := by
  obtain ⟨st, h0, hin, hitem⟩ := producer_status hi
  refine Queue.idle_of_outside (Option.eq_none_iff_forall_ne_some.mpr fun it hit => ?_) hin ▸ h0
  obtain ⟨x, r, hp, _⟩ := hitem it hit
  exact hnp x r hp

/-- Every step that the completed-call pipeline can take from `s.p` is matched by an enabled
non-spurious transition of the product (of the same thread, or — for a sleeping consumer — of the
consumer the wake-up went to). -/
theorem abstract_step_matched {enc : PItem → QItem} {prog : List Pipeline.Instr} {cap N : Nat}
    {s : PState} (henc : EncOK enc prog) (hi : PInv enc prog cap N s)
    {p' : Pipeline.State} (hs : Pipeline.Step true s.p p') :
    ∃ e s', pstep enc s e = some s' ∧ e.isSpur = false := by
  obtain ⟨e, he⟩ := hs
  have work : workOK e = true → ∃ e s', pstep enc s e = some s' ∧ e.isSpur = false :=
    fun hok => (PStep.work hok he).moves rfl
  cases Pipeline.stepI_of_step? he with
  | push hp hg => exact producer_push_moves henc hi hp hg
  | waitEmpty hp hq0 => exact (PStep.waitEmpty hp hq0 ((pinv_empty hi).mp hq0)).moves rfl
  | close hp =>
    have h0 := producer_idle hi (fun x r h => nomatch hp.symm.trans h)
    exact (PStep.close hp (Queue.step_complete (.close h0))).moves rfl
  | pull hw hm => exact worker_moves henc hi hw (.inl (List.ne_nil_of_mem hm.1))
  | exit hw hc hq0 => exact worker_moves henc hi hw (.inr ⟨hc, hq0⟩)
  | buffer _ | release1 _ _ | release _ _ _ _ | advance _ _ _ | advance4 _ => exact work rfl

/-- A stuck product state projects to a final pipeline state, given that the completed-call
pipeline has no deadlock (`Props.C05.no_deadlock_fixed`). -/
theorem stuck_final {enc : PItem → QItem} {prog : List Pipeline.Instr} {cap N : Nat} {s : PState}
    (henc : EncOK enc prog)
    (hprog : ∀ p, Pipeline.Reachable true prog cap N p → ¬ Pipeline.Final p →
      ∃ p', Pipeline.Step true p p')
    (hi : PInv enc prog cap N s) (hst : Stuck enc s) : Pipeline.Final s.p := by
  refine Classical.byContradiction fun hnf => ?_
  obtain ⟨p', hs⟩ := hprog s.p hi.reach hnf
  obtain ⟨e, s', h, hspur⟩ := abstract_step_matched henc hi hs
  exact Bool.noConfusion (hspur.symm.trans (hst e s' h))

/-- Conversely, a final pipeline state is stuck: the potential of the pipeline is 0 there, and a
thread inside a call would belong to a producer or worker that is not finished. -/
theorem final_stuck {enc : PItem → QItem} {prog : List Pipeline.Instr} {cap N : Nat} {s : PState}
    (hi : PInv enc prog cap N s) (hf : Pipeline.Final s.p) : Stuck enc s := by
  intro e s' h
  exfalso
  rcases pstep_cases h with ⟨qe, rfl, hok, -, hq⟩ | ⟨pe, hp, -⟩
  · obtain ⟨a, b, ha, -, hb, hab, -⟩ := stut_effect hok hq
    exact hb ((hab (hi.sync _ _ ha)).final hf)
  · exact Nat.not_lt_zero _ (Φ_final hf ▸ Pipeline.step?_decreases hp)

end

theorem lex_lt {a a' K m m' : Nat} (h : a' < a) (hm : m' < K) : a' * K + m' < a * K + m :=
  calc a' * K + m' < a' * K + K := Nat.add_lt_add_left hm _
    _ = (a' + 1) * K := (Nat.succ_mul _ _).symm
    _ ≤ a * K := Nat.mul_le_mul_right K h
    _ ≤ a * K + m := Nat.le_add_right _ _

theorem pstep_measure {enc : PItem → QItem} {s s' : PState} {e : PEv}
    (h : pstep enc s e = some s') (hsp : e.isSpur = false) : M s' < M s := by
  unfold M
  rcases pstep_cases h with ⟨qe, rfl, hok, hp, hq⟩ | ⟨pe, hp, hlen⟩
  · obtain ⟨a, b, ha, hq', -, -, hlt⟩ := stut_effect hok hq
    have hsum : mu2 (s.q.setT qe.tid b) + wt2 a = mu2 s.q + wt2 b := ListFacts.sum_map_set wt2 b ha
    have := hlt hsp
    rw [hp, Queue.step_thr_length hq, hq']
    omega
  · rw [hlen]
    exact lex_lt (Pipeline.step?_decreases hp) (Nat.lt_succ_of_le (hlen ▸ mu2_le s'.q))

/-- executions without spurious wake-ups are bounded (C05 `condvar_executions_bounded`) -/
theorem prun_bounded {enc : PItem → QItem} : ∀ (es : List PEv) {s s' : PState},
    prun enc s es = some s' → (∀ e ∈ es, e.isSpur = false) → es.length + M s' ≤ M s
  | [], s, s', h, _ => by cases h; exact Nat.le_of_eq (Nat.zero_add _)
  | e :: es, s, s', h, hsp => by
    obtain ⟨s1, hs, h⟩ := Option.bind_eq_some_iff.mp h
    have h1 := pstep_measure hs (hsp e List.mem_cons_self)
    have h2 := prun_bounded es h (fun e' he' => hsp e' (List.mem_cons_of_mem _ he'))
    rw [List.length_cons]; omega

/-! ### a concrete run of the product (non-vacuity) -/
namespace Demo

def ctg : PItem := .contig 0 2147483647 5 5 0
def tok : PItem := .token 0 1000000 1
/-- one contig, one round of two tokens, close; two workers (`Props.C05.demoProg`) -/
def prog : List Pipeline.Instr := [.push ctg, .push tok, .push tok, .close]
def enc : PItem → QItem := rankEnc prog

/-- Worker 0 goes to sleep on the empty queue and is woken by the producer's `notify_one`; the
contig and the token round go through; both workers see end-of-stream. -/
def evs : List PEv :=
  [ .stut (.pullEnter 1), .stut (.pullWait 1),
    .stut (.pushEnter 0 (enc ctg)), .push (some 1),
    .stut (.pullWake 1), .pull 0 ctg none, .work (.buffer 0),
    .stut (.pushEnter 0 (enc tok)), .push none,
    .stut (.pushEnter 0 (enc tok)), .push none,
    .close,
    .stut (.pullEnter 1), .pull 0 tok none,
    .stut (.pullEnter 2), .pull 1 tok none,
    .work (.release 1), .work (.advance 0), .work (.advance 1),
    .work (.release 2), .work (.advance 0), .work (.advance 1),
    .work (.release 3), .work (.advance 0), .work (.advance 1),
    .work (.release 4), .work (.advance 0), .work (.advance 1),
    .stut (.pullEnter 1), .eos 0, .stut (.pullEnter 2), .eos 1 ]

/-- after the first two events: worker 0 asleep in `not_empty.wait` -/
def asleep : PState :=
  { p := Pipeline.init prog 8 2,
    q := { items := [], cur := 0, closed := false, thr := [.idle, .waitNE, .idle], hist := [] } }

/-- after four events: the contig is queued, worker 0 has been notified and has not resumed -/
def notified : PState :=
  { p := { Pipeline.init prog 8 2 with prog := [.push tok, .push tok, .close], queue := [ctg] },
    q := { items := [enc ctg], cur := 5, closed := false, thr := [.idle, .notifNE, .idle],
           hist := [.accept 0 (enc ctg)] } }

def final : PState :=
  { p := { prog := [], queue := [], closed := true, cap := 8, workers := [.exited, .exited],
           buffered := [], batches := [[0]] },
    q := { items := [], cur := 0, closed := true, thr := [.idle, .idle, .idle],
           hist := [.eos 2, .eos 1, .take 2 (enc tok), .take 1 (enc tok), .close 0,
                    .accept 0 (enc tok), .accept 0 (enc tok), .take 1 (enc ctg), .accept 0 (enc ctg)] } }

theorem run_asleep : prun enc (init prog 8 2) (evs.take 2) = some asleep := by decide +kernel
theorem run_notified : prun enc (init prog 8 2) (evs.take 4) = some notified := by decide +kernel
theorem run_final : prun enc (init prog 8 2) evs = some final := by decide +kernel

end Demo

end Ragc.Product
