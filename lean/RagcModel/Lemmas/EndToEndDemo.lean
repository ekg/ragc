import RagcModel.Lemmas.EndToEnd
/-!
The demo inputs of the non-vacuity examples of `Props/C16.lean` (end-to-end section), and the facts
about them that the examples share, each evaluated once. The inputs are what those examples are
stated about, so they keep their names in `Ragc.Props.C16`; they stand here because `Props/C16.lean`
holds no lemmas.
-/
namespace Ragc.Props.C16
open Ragc.Fasta Ragc.EndToEnd

/-- Two input files: `A.fa` = `>c\nacgtAC\nGTAC\n>e\n>d\nG-N\r\nc\n` (lower case, two lines, a record
without sequence, a gap, a CRLF) and `x.fa` = `>B#1#c\nACGGACGTAC` (PanSN header, no final newline). -/
def exFiles : List InFile :=
  [([65, 46, 102, 97],
    [62, 99, 10, 97, 99, 103, 116, 65, 67, 10, 71, 84, 65, 67, 10, 62, 101, 10, 62, 100, 10,
     71, 45, 78, 13, 10, 99, 10]),
   ([120, 46, 102, 97], [62, 66, 35, 49, 35, 99, 10, 65, 67, 71, 71, 65, 67, 71, 84, 65, 67])]

/-- `k = 3`, `min_match_len = 10`, segment size 10, level 17 (the configuration of C01's example) -/
def exCfg : Ragc.Writer.Cfg := ⟨3, 10, 10, 17⟩

/-- decisions: `c` of `A` in two 3-overlapping pieces, LZ group 16 holds its first piece (reference)
and the first piece of `B#1#c` (a real delta), raw group 0 the other three pieces, one stored
reverse-complemented -/
def exDec : Ragc.Writer.Decisions :=
  ⟨[[[⟨6, 16, 0, false⟩, ⟨7, 0, 0, true⟩], [⟨3, 0, 1, false⟩]], [[⟨6, 16, 1, false⟩, ⟨7, 0, 2, false⟩]]],
   [⟨16, false, [(0, 0, 0), (1, 0, 0)]⟩, ⟨0, false, [(0, 0, 1), (0, 1, 0), (1, 0, 1)]⟩]⟩

def zcToy : Nat → List Nat → List Nat := fun l x => l :: x
def zdToy : List Nat → Option (List Nat) := fun c => some c.tail

/-- two files `s0` (records `A#1#c`, `A#1#d`) and `s1` (`B#1#c`), and the single file `all.fa` -/
def exPansnFiles : List (Bytes × Bool × List (Rec × RecStyle)) :=
  [([115, 48], true,
    [(⟨[65, 35, 49, 35, 99], [65, 67, 71, 84, 65, 67, 71, 84, 65, 67]⟩, ⟨60, false, []⟩),
     (⟨[65, 35, 49, 35, 100], [71, 78, 67]⟩, ⟨60, false, []⟩)]),
   ([115, 49], false, [(⟨[66, 35, 49, 35, 99], [65, 67, 71, 71, 65, 67, 71, 84, 65, 67]⟩, ⟨4, true, [true, true]⟩)])]

def exPansnAll : List (Rec × RecStyle) :=
  [(⟨[65, 35, 49, 35, 99], [65, 67, 71, 84, 65, 67, 71, 84, 65, 67]⟩, ⟨7, true, [true]⟩),
   (⟨[65, 35, 49, 35, 100], [71, 78, 67]⟩, ⟨1, false, []⟩),
   (⟨[66, 35, 49, 35, 99], [65, 67, 71, 71, 65, 67, 71, 84, 65, 67]⟩, ⟨80, false, []⟩)]

theorem zdToy_zcToy (l : Nat) (x : List Nat) : zdToy (zcToy l x) = some x := rfl

theorem zcToy_ne_nil (l : Nat) (x : List Nat) (h : zcToy l x = []) : x = [] := by cases h

theorem exFiles_clean : SeqClean exFiles := by unfold SeqClean; decide +kernel

theorem textRecords_exFiles : textRecords exFiles =
    [([65], [99], [97, 99, 103, 116, 65, 67, 10, 71, 84, 65, 67, 10]),
     ([65], [100], [71, 45, 78, 13, 10, 99, 10]),
     ([66, 35, 49], [66, 35, 49, 35, 99], [65, 67, 71, 71, 65, 67, 71, 84, 65, 67])] := by
  decide +kernel

theorem exDec_ok : Ragc.Writer.DecisionsOK exCfg (inputOf exFiles) exDec := by decide +kernel

/-- The writer answers on both demo inputs. One evaluation for the two: most of the kernel's work
on `writeArchive` is decoding the writer's string constants (stream names, `file_type_info`), and
within one declaration it does that once. -/
theorem demo_archives :
    (createModel exCfg exFiles exDec zcToy).isSome = true ∧
    (Ragc.Writer.writeArchive exCfg (inputOf (filesOf exPansnFiles)) exDec zcToy).isSome = true := by
  decide +kernel

theorem create_exFiles : ∃ bs, createModel exCfg exFiles exDec zcToy = some bs :=
  Option.isSome_iff_exists.mp demo_archives.1

end Ragc.Props.C16
