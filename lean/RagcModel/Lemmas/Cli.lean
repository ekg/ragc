import RagcModel.Model.Cli
import RagcModel.Lemmas.Fasta
/-!
Helper lemmas for C17 (`Model/Cli.lean`): closed forms of the extraction loop (temp directory
writable or not) and of `getset` on the names it selects, lookup in archives with distinct sample
names, the old loops, inversion of the `create` dispatch.
-/
namespace Ragc.Cli

/-- What a single-sample extraction of `n` prints (`[]` for an unknown name). -/
def Archive.fasta (a : Archive) (n : Bytes) : Bytes :=
  match a.lookup n with
  | some s => sampleFasta s
  | none => []

/-- `n` names a sample of the archive. -/
def Archive.known (a : Archive) (n : Bytes) : Bool := (a.lookup n).isSome

theorem Exit.code_eq_zero (e : Exit) : e.code = 0 ↔ e = .ok := by
  cases e <;> simp [Exit.code]

theorem emit_temp (fs : Fs) (d : Dest) (b : Bytes) (t : File) :
    ({ fs with temp := t } : Fs).emit d b = { fs.emit d b with temp := t } := by
  cases d <;> rfl

theorem emit_emit (fs : Fs) (d : Dest) (b b' : Bytes) :
    (fs.emit d b).emit d b' = fs.emit d (b ++ b') := by
  cases d <;> simp [Fs.emit, File.append]

/-- Writing nothing changes nothing, once the `-o` file has been created. -/
theorem emit_nil (fs : Fs) (d : Dest) (hd : d = .file → fs.out.isSome) : fs.emit d [] = fs := by
  cases d with
  | stdout => simp [Fs.emit]
  | file =>
    obtain ⟨o, ho⟩ := Option.isSome_iff_exists.mp (hd rfl)
    cases fs
    simp_all [Fs.emit, File.append]

/-- Closed form of the loop (temp directory writable; with `-o`, output file created): the samples
before the first unknown name are written, in order; the temp file is gone afterwards; the exit
status is 0 exactly when every name is known. -/
theorem extractLoop_closed (a : Archive) (d : Dest) (ns : List Bytes) (loaded : Bool) (fs : Fs)
    (hd : d = .file → fs.out.isSome) :
    extractLoop a true d ns loaded fs =
      (if ns.all a.known then .ok else .err,
       { fs.emit d ((ns.takeWhile a.known).map a.fasta).flatten with temp := none }) := by
  induction ns generalizing loaded fs with
  | nil => rw [List.takeWhile_nil, List.map_nil, List.flatten_nil, emit_nil fs d hd]; rfl
  | cons n rest ih =>
    unfold extractLoop
    cases hl : a.lookup n with
    | none =>
      simp only [List.all_cons, List.takeWhile_cons, Archive.known, hl, Option.isSome_none,
        Bool.false_and, Bool.false_eq_true, if_false, List.map_nil, List.flatten_nil, emit_nil fs d hd]
      cases loaded <;> rfl
    | some s =>
      simp only [List.all_cons, List.takeWhile_cons, Archive.known, Archive.fasta, hl,
        Option.isSome_some, Bool.true_and, if_true, List.map_cons, List.flatten_cons,
        Bool.not_true, Bool.false_eq_true, if_false, File.create, File.append, Option.getD_some,
        List.nil_append, emit_temp]
      rw [ih, emit_temp, emit_emit]
      cases d with
      | stdout => nofun
      | file => intro _; rfl

/-- The loop when the temp file cannot be created: nothing is written. -/
theorem extractLoop_noTemp (a : Archive) (d : Dest) (ns : List Bytes) (loaded : Bool) (fs : Fs) :
    extractLoop a false d ns loaded fs =
      (if ns = [] then .ok else .err, { fs with temp := none }) := by
  cases ns with
  | nil => rfl
  | cons n rest =>
    unfold extractLoop
    cases a.lookup n with
    | none => cases loaded <;> rfl
    | some s => rfl

/-- The loop never exits with a usage error or a panic. -/
theorem extractLoop_exit (a : Archive) (tc : Bool) (d : Dest) (ns : List Bytes) (loaded : Bool)
    (fs : Fs) (hd : d = .file → fs.out.isSome) :
    (extractLoop a tc d ns loaded fs).1 = .ok ∨ (extractLoop a tc d ns loaded fs).1 = .err := by
  cases tc with
  | false => rw [extractLoop_noTemp]; dsimp only; split <;> simp
  | true => rw [extractLoop_closed _ _ _ _ _ hd]; dsimp only; split <;> simp

theorem extractLoop_ok_iff (a : Archive) (tc : Bool) (d : Dest) {ns : List Bytes} (hne : ns ≠ [])
    (loaded : Bool) (fs : Fs) (hd : d = .file → fs.out.isSome) :
    (extractLoop a tc d ns loaded fs).1 = .ok ↔ (∀ n ∈ ns, a.known n = true) ∧ tc = true := by
  cases tc with
  | false => simp [extractLoop_noTemp, hne]
  | true =>
    rw [extractLoop_closed _ _ _ _ _ hd, ← List.all_eq_true]
    cases ns.all a.known <;> simp

theorem samplesToExtract_ne_nil {a : Archive} {r : Request} {ns : List Bytes}
    (h : samplesToExtract a r = some ns) : ns ≠ [] := by
  have key : ∀ l : List Bytes, (if l.isEmpty then none else some l) = some ns → ns ≠ [] := by
    intro l hl
    cases l with
    | nil => cases hl
    | cons x xs => cases hl; exact List.cons_ne_nil x xs
  unfold samplesToExtract at h
  cases hp : r.pfx with
  | some p => rw [hp] at h; exact key _ h
  | none => rw [hp] at h; exact key _ h

theorem getset_exit_ok_iff (a : Archive) (oc tc : Bool) (r : Request) (d : Dest) (fs : Fs)
    {ns : List Bytes} (hs : samplesToExtract a r = some ns) :
    (getset ⟨some a, oc, tc⟩ r d fs).1 = .ok ↔
      (∀ n ∈ ns, a.known n = true) ∧ tc = true ∧ (d = .file → oc = true) := by
  have hne := samplesToExtract_ne_nil hs
  cases d with
  | stdout =>
    simp only [getset, hs]
    rw [extractLoop_ok_iff a tc .stdout hne _ _ nofun]
    simp
  | file =>
    cases oc with
    | false => simp [getset, hs]
    | true =>
      simp only [getset, hs, Bool.not_true, Bool.false_eq_true, if_false]
      rw [extractLoop_ok_iff a tc .file hne _ _ (fun _ => rfl)]
      simp

/-- `getset` never exits with a usage error or a panic. -/
theorem getset_exit (env : Env) (r : Request) (d : Dest) (fs : Fs) :
    (getset env r d fs).1 = .ok ∨ (getset env r d fs).1 = .err := by
  fun_cases getset env r d fs
  -- the two leaves that run the loop: stdout, and `-o` with the output file created
  case case3 => exact extractLoop_exit _ _ _ _ _ _ nofun
  case case5 => exact extractLoop_exit _ _ _ _ _ _ (fun _ => rfl)
  all_goals exact Or.inr rfl

theorem samplesToExtract_names (a : Archive) {ns : List Bytes} (hne : ns ≠ []) :
    samplesToExtract a ⟨ns, none⟩ = some ns := by
  cases ns with
  | nil => exact absurd rfl hne
  | cons x xs => rfl

/-- `getset` with a writable temp directory, on the names `ns` its request selects: what the
stdout run prints, and what the `-o` run leaves in the output file, are the samples before the
first unknown name, in order. -/
theorem getset_closed (a : Archive) (oc : Bool) (r : Request) (ns : List Bytes) (fs : Fs)
    (hs : samplesToExtract a r = some ns) :
    getset ⟨some a, oc, true⟩ r .stdout fs =
      (if ns.all a.known then .ok else .err,
        { fs with stdout := fs.stdout ++ ((ns.takeWhile a.known).map a.fasta).flatten,
                  temp := none }) ∧
    getset ⟨some a, true, true⟩ r .file fs =
      (if ns.all a.known then .ok else .err,
        { fs with out := some ((ns.takeWhile a.known).map a.fasta).flatten, temp := none }) := by
  constructor
  · simp only [getset, hs]
    exact extractLoop_closed a .stdout ns false fs nofun
  · simp only [getset, hs, Bool.not_true, Bool.false_eq_true, if_false]
    exact extractLoop_closed a .file ns false _ (fun _ => rfl)

/-- … all of them when every name is known. -/
theorem getset_all_known (a : Archive) (oc : Bool) (r : Request) (ns : List Bytes) (fs : Fs)
    (hs : samplesToExtract a r = some ns) (hk : ∀ n ∈ ns, a.known n = true) :
    getset ⟨some a, oc, true⟩ r .stdout fs =
      (.ok, { fs with stdout := fs.stdout ++ (ns.map a.fasta).flatten, temp := none }) ∧
    getset ⟨some a, true, true⟩ r .file fs =
      (.ok, { fs with out := some (ns.map a.fasta).flatten, temp := none }) := by
  have := getset_closed a oc r ns fs hs
  rwa [List.all_eq_true.mpr hk, Fasta.takeWhile_all _ _ hk] at this

theorem lookup_of_mem (a : Archive) (h : (a.samples.map (·.name)).Nodup) (s : Sample)
    (hs : s ∈ a.samples) : a.lookup s.name = some s := by
  unfold Archive.lookup
  generalize a.samples = l at h hs
  induction l with
  | nil => cases hs
  | cons x rest ih =>
    simp only [List.map_cons, List.nodup_cons] at h
    by_cases hx : x.name = s.name
    · rcases List.mem_cons.mp hs with rfl | hr
      · simp
      · exact absurd (hx ▸ List.mem_map_of_mem (f := (·.name)) hr) h.1
    · rcases List.mem_cons.mp hs with rfl | hr
      · exact absurd rfl hx
      · rw [List.find?_cons_of_neg (by simpa using hx)]
        exact ih h.2 hr

theorem fasta_of_mem (a : Archive) (h : (a.samples.map (·.name)).Nodup) (s : Sample)
    (hs : s ∈ a.samples) : a.fasta s.name = sampleFasta s := by
  simp only [Archive.fasta, lookup_of_mem a h s hs]

theorem known_of_mem (a : Archive) (s : Sample) (hs : s ∈ a.samples) : a.known s.name = true :=
  List.find?_isSome.mpr ⟨s, hs, beq_self_eq_true _⟩

theorem listSamplesWithPrefix_eq (a : Archive) (p : Bytes) :
    listSamplesWithPrefix a p = (a.samples.filter (fun s => p.isPrefixOf s.name)).map (·.name) :=
  List.filter_map

/-- Before commit 158f0d4 every sample re-created its target — the `-o` file, or the temp file
that was printed once at the end: the last sample wins. -/
theorem oldLoops_known (a : Archive) (n : Bytes) (rest : List Bytes) (loaded : Bool) (fs : Fs)
    (h : ∀ m ∈ n :: rest, a.known m = true) :
    oldFileLoop a (n :: rest) loaded fs =
      (.ok, { fs with out := some (a.fasta ((n :: rest).getLast (List.cons_ne_nil n rest))) }) ∧
    oldStdoutLoop a (n :: rest) loaded fs =
      (.ok, { fs with
        stdout := fs.stdout ++ a.fasta ((n :: rest).getLast (List.cons_ne_nil n rest)),
        temp := none }) := by
  obtain ⟨s, hs⟩ := Option.isSome_iff_exists.mp (h n (List.mem_cons_self ..))
  induction rest generalizing n s loaded fs with
  | nil =>
    simp only [oldFileLoop, oldStdoutLoop, Archive.fasta, hs, List.getLast_singleton, File.create,
      File.append, Option.getD_some, List.nil_append, and_self]
  | cons m rest ih =>
    obtain ⟨t, ht⟩ := Option.isSome_iff_exists.mp (h m (by simp))
    have ih := fun fs => ih m true fs (fun y hy => h y (List.mem_cons_of_mem n hy)) t ht
    rw [oldFileLoop, oldStdoutLoop, hs, List.getLast_cons_cons]
    exact ⟨(ih _).1, (ih _).2⟩

/-! Both inversions of `createDispatch` go along its decision chain (`fun_cases`): one goal per leaf,
the guards passed on the way as hypotheses; every leaf but one is a different constructor. -/

/-- What a command line that reaches the streaming mode looks like. -/
theorem dispatch_streaming {c : CreateArgs} {s : Bool} {n : Nat}
    (h : createDispatch c = .streaming s n) :
    c.outputGiven = true ∧ c.nInputs ≠ 0 ∧ c.threads ≠ some 0 ∧ c.cppAgc = false ∧
    c.batch = false ∧ c.adaptive = false ∧ c.concatenated = false ∧
    parseCapacity c.queueCapacity = some n ∧ s = (c.nInputs == 1) := by
  revert h
  fun_cases createDispatch c
  -- the streaming leaf, below the seven guards and the capacity match
  case case8 g1 g2 _ _ g5 g6 g7 n' hp =>
    intro h
    cases h
    simp only [Bool.or_eq_true, Bool.not_eq_eq_eq_not, Bool.not_true, beq_iff_eq, not_or,
      Bool.not_eq_false, Bool.not_eq_true] at g1 g2 g5 g6 g7
    exact ⟨g1.1, g1.2, g2, g5, g6, g7.1, g7.2, hp, rfl⟩
  all_goals exact nofun

/-- The FFI path needs both the flag and the build feature. -/
theorem dispatch_cppFfi {c : CreateArgs} (h : createDispatch c = .cppFfi) :
    c.cppAgc = true ∧ c.cppFeature = true := by
  revert h
  fun_cases createDispatch c
  -- the FFI leaf, fourth guard
  case case4 _ _ _ g4 => exact fun _ => Bool.and_eq_true_iff.mp g4
  all_goals exact nofun

theorem createExit_ok {c : CreateArgs} {e : CreateEnv} (h : createExit c e = .ok) :
    (createDispatch c = .cppFfi ∧ e.ffiOk = true) ∨
    ∃ s n, createDispatch c = .streaming s n ∧
      e.inputsOk = true ∧ e.outputCreatable = true ∧ e.finalizeOk = true := by
  revert h
  fun_cases createExit c e
  -- the two leaves that return `.ok`: FFI with `ffiOk`, streaming with the three steps `Ok`
  case case3 hd hf => exact fun _ => Or.inl ⟨hd, hf⟩
  case case8 s n hd hi ho hf =>
    simp only [Bool.not_eq_eq_eq_not, Bool.not_true, Bool.not_eq_false] at hi ho hf
    exact fun _ => Or.inr ⟨s, n, hd, hi, ho, hf⟩
  all_goals exact nofun

theorem createExit_class (c : CreateArgs) (e : CreateEnv) :
    createExit c e = .ok ∨ createExit c e = .err ∨ createExit c e = .usage := by
  fun_cases createExit c e <;> simp

end Ragc.Cli
