import RagcModel.Model.ReaderState
/-!
Lemmas for C08 (Model/ReaderState.lean): loading all metadata batches yields the archive's table
from any handle state (current code), the cache invariant, the loops with the caching loader agree
with the loops over the pure loader, and the handle invariant `Inv` is preserved by every
operation while every result equals the specification `answer`.
-/
namespace Ragc.ReaderState
open Ragc.CollVarint (Res)
open Ragc.Names (Name)
open Ragc.Details (Seg Contig)

/-- Loading the batches `j, j+1, …` when the cursor stands where the next batch is placed (always,
except that the current code restarts it for batch 0). With the table split at the cursor as
`done ++ todo`, the batches overwrite the front of `todo`. -/
theorem loadFrom_eq (v : Variant) (bs : List MBatch) (st : State) (j : Nat)
    (done todo : List (List Contig)) (hc : st.contigs = done ++ todo) (hcur : st.cursor = done.length)
    (hj : j ≠ 0 ∨ v.resetCursor = false ∨ st.cursor = 0) (h : bs.flatten.length ≤ todo.length) :
    loadFrom v st j bs = .ok { st with
      contigs := done ++ bs.flatten ++ todo.drop bs.flatten.length,
      cursor := done.length + bs.flatten.length } := by
  induction bs generalizing st j done todo with
  | nil => simp [loadFrom, ← hc, ← hcur]
  | cons b bs ih =>
    rw [List.flatten_cons, List.length_append] at h
    have hi : (if (v.resetCursor && j == 0) = true then 0 else st.cursor) = done.length := by
      rw [← hcur]
      rcases hj with hj | hj | hj <;> simp [hj]
    have hload : loadBatch v st j b = .ok { st with
        contigs := (done ++ b) ++ todo.drop b.length, cursor := (done ++ b).length } := by
      have hfit : done.length + b.length ≤ done.length + todo.length :=
        Nat.add_le_add_left (Nat.le_trans (Nat.le_add_right _ _) h) _
      simp only [loadBatch, hi, hc, List.length_append, hfit, if_true, List.take_left',
        List.drop_length_add_append]
    rw [loadFrom, hload]
    simp only []
    rw [ih _ (j + 1) (done ++ b) (todo.drop b.length) rfl rfl (Or.inl (Nat.succ_ne_zero j))
      (by rw [List.length_drop]; exact Nat.le_sub_of_add_le' h)]
    simp only [List.flatten_cons, List.length_append, List.append_assoc, Nat.add_assoc, List.drop_drop]

/-- Where the cursor stands after loading all batches (it is not moved when there is none). -/
def loadedCursor (A : Arch) (st : State) : Nat :=
  match A.batches with
  | [] => st.cursor
  | _ :: _ => (table A).length

/-- Current code: loading all batches on a handle in *any* state (right number of samples) gives
exactly the archive's table and leaves the cache alone. -/
theorem loadAll_current_eq (A : Arch) (st : State) (hwf : WF A)
    (hlen : st.contigs.length = A.samples.length) :
    loadAll current A st = .ok { contigs := table A, cursor := loadedCursor A st, cache := st.cache } := by
  unfold loadAll loadedCursor
  unfold WF at hwf
  unfold table at hwf ⊢
  cases hb : A.batches with
  | nil =>
    rw [hb] at hwf
    simp only [List.flatten_nil, List.length_nil] at hwf
    have : st.contigs = [] := List.eq_nil_of_length_eq_zero (by omega)
    simp only [loadFrom, List.flatten_nil, ← this]
  | cons b bs =>
    rw [hb] at hwf
    -- batch 0 restarts the cursor
    have hreset : loadFrom current st 0 (b :: bs) = loadFrom current { st with cursor := 0 } 0 (b :: bs) := by
      simp [loadFrom, loadBatch, current]
    rw [hreset, loadFrom_eq current (b :: bs) { st with cursor := 0 } 0 [] st.contigs rfl rfl
        (Or.inr (Or.inr rfl))
      (by rw [hwf, hlen]; exact Nat.le_refl _),
      List.drop_of_length_le (by rw [hwf, hlen]; exact Nat.le_refl _)]
    simp only [List.nil_append, List.append_nil, List.length_nil, Nat.zero_add]

/-- Pre-repair code: the first load on a fresh handle works and leaves the cursor at the end … -/
theorem loadAll_old_fresh (A : Arch) (hwf : WF A) :
    loadAll preRepair A (fresh A) = .ok { contigs := table A, cursor := (table A).length, cache := [] } := by
  unfold loadAll
  unfold WF at hwf
  unfold table at hwf ⊢
  have hl : A.batches.flatten.length ≤ (fresh A).contigs.length := by
    rw [hwf, fresh, List.length_replicate]; exact Nat.le_refl _
  rw [loadFrom_eq preRepair A.batches (fresh A) 0 [] (fresh A).contigs rfl rfl (Or.inr (Or.inl rfl)) hl,
    List.drop_of_length_le (by rw [hwf, fresh, List.length_replicate]; exact Nat.le_refl _)]
  simp only [fresh, List.nil_append, List.append_nil, List.length_nil, Nat.zero_add]

/-- … so that every later load starts past the end of the sample table: index panic. -/
theorem loadAll_old_again (A : Arch) (st : State) (b : MBatch) (bs : List MBatch)
    (hb : A.batches = b :: bs) (hne : b ≠ []) (hc : st.contigs.length ≤ st.cursor) :
    loadAll preRepair A st = .panic := by
  unfold loadAll
  rw [hb]
  have : 0 < b.length := List.length_pos_iff.mpr hne
  have : ¬ st.cursor + b.length ≤ st.contigs.length := by omega
  have e : loadBatch preRepair st 0 b = .panic := by
    simp only [loadBatch, preRepair, Bool.false_and, Bool.false_eq_true, if_false, this]
  simp only [loadFrom, e]

theorem lookup_eq_none_iff (names : List Name) (s : Name) : lookup names s = none ↔ s ∉ names := by
  induction names with
  | nil => simp [lookup]
  | cons x xs ih =>
    simp only [lookup, List.mem_cons, not_or]
    cases hl : lookup xs s with
    | some i =>
      have : ¬ (s ∉ xs) := fun h => by rw [ih.mpr h] at hl; cases hl
      simp [this]
    | none =>
      have := ih.mp hl
      by_cases hx : x = s
      · simp [hx]
      · simp only [hx, if_false, true_iff]
        exact ⟨fun h => hx h.symm, this⟩

theorem findContig_eq_none_iff (cs : List Contig) (c : Name) :
    findContig cs c = none ↔ ∀ x ∈ cs, x.name ≠ c := by
  unfold findContig
  simp [List.find?_eq_none]

theorem contigsOf_unknown (names : List Name) (t : List (List Contig)) (s : Name) (h : s ∉ names) :
    contigsOf names t s = none := by
  simp [contigsOf, (lookup_eq_none_iff names s).mpr h]

/-- An unknown sample triggers the lazy loading … -/
theorem needsLoad_of_unknown (A : Arch) (st : State) (s : Name) (h : s ∉ A.samples) : needsLoad A st s = true := by
  rw [needsLoad, (lookup_eq_none_iff _ _).mpr h]

/-- … and so does every sample while no contig table is loaded. -/
theorem needsLoad_of_untouched (A : Arch) (st : State) (s : Name) (n : Nat)
    (h : st.contigs = List.replicate n []) : needsLoad A st s = true := by
  rw [needsLoad, h]
  split
  · rfl
  · rw [List.getD_eq_getElem?_getD, List.getElem?_replicate]
    split <;> rfl

/-- The descriptor lookup fails for an unknown sample and for a contig name the sample does not have. -/
theorem contigDesc_eq_none (names : List Name) (t : List (List Contig)) (s c : Name)
    (h : s ∉ names ∨ ∃ cs, contigsOf names t s = some cs ∧ ∀ x ∈ cs, x.name ≠ c) :
    contigDesc names t s c = none := by
  rcases h with h | ⟨cs, h1, h2⟩
  · rw [contigDesc, contigsOf_unknown names t s h]
  · rw [contigDesc, h1]
    exact congrArg (Option.map Contig.segs) ((findContig_eq_none_iff cs c).mpr h2)

/-- The cache only holds LZ groups, each with the reference the archive yields for it. -/
def CacheOK (A : Arch) (c : Cache) : Prop :=
  ∀ g r, cacheGet c g = some r → 16 ≤ g ∧ A.ref g = .ok r

theorem cacheOK_cons (A : Arch) (c : Cache) (g : Nat) (r : Bases) (h : CacheOK A c)
    (hg : 16 ≤ g) (hr : A.ref g = .ok r) : CacheOK A ((g, r) :: c) := by
  intro g' r' h'
  simp only [cacheGet] at h'
  split at h'
  · next heq => cases h'; subst heq; exact ⟨hg, hr⟩
  · exact h g' r' h'

/-- The handle invariant: the contig metadata is untouched (nothing loaded) or exactly the
archive's table, and the cache only holds correct references. -/
structure Inv (A : Arch) (st : State) : Prop where
  len : st.contigs.length = A.samples.length
  tbl : st.contigs = List.replicate A.samples.length [] ∨ st.contigs = table A
  cache : CacheOK A st.cache

theorem inv_fresh (A : Arch) : Inv A (fresh A) :=
  ⟨by simp [fresh], Or.inl rfl, fun _ _ h => nomatch h⟩

theorem inv_cache (A : Arch) (st : State) (c : Cache) (h : Inv A st) (hc : CacheOK A c) :
    Inv A { st with cache := c } := ⟨h.len, h.tbl, hc⟩

/-- After the lazy-loading block the handle sees, for the asked sample, what the table holds. -/
theorem ensureLoaded_spec (A : Arch) (st : State) (s : Name) (hwf : WF A) (h : Inv A st) :
    ∃ st1, ensureLoaded current A st s = .ok st1 ∧ Inv A st1 ∧ st1.cache = st.cache ∧
      contigsOf A.samples st1.contigs s = contigsOf A.samples (table A) s := by
  unfold ensureLoaded
  by_cases hn : needsLoad A st s = true
  · exact ⟨{ contigs := table A, cursor := loadedCursor A st, cache := st.cache },
      by rw [if_pos hn]; exact loadAll_current_eq A st hwf h.len, ⟨hwf, Or.inr rfl, h.cache⟩, rfl, rfl⟩
  · refine ⟨st, by rw [if_neg hn], h, rfl, ?_⟩
    rcases h.tbl with ht | ht
    · exact absurd (needsLoad_of_untouched A st s _ ht) hn
    · rw [ht]

theorem getSegment_spec (A : Arch) (c : Cache) (d : Seg) (h : CacheOK A c) :
    (getSegment A c d).2 = segPure A d ∧ CacheOK A (getSegment A c d).1 := by
  unfold getSegment segPure
  by_cases hg : d.group ≥ 16
  · rw [if_pos hg, if_pos hg]
    cases hc : cacheGet c d.group with
    | some r =>
      rw [(h _ _ hc).2]
      by_cases hi : d.inGroup = 0
      · simp only [hi, if_true]; exact ⟨trivial, h⟩
      · simp only [hi, if_false]; exact ⟨trivial, h⟩
    | none =>
      cases hr : A.ref d.group with
      | ok r =>
        by_cases hi : d.inGroup = 0
        · simp only [hi, if_true]; exact ⟨trivial, cacheOK_cons A c _ _ h hg hr⟩
        · simp only [hi, if_false]; exact ⟨trivial, cacheOK_cons A c _ _ h hg hr⟩
      | err => exact ⟨rfl, h⟩
      | panic => exact ⟨rfl, h⟩
  · rw [if_neg hg, if_neg hg]
    exact ⟨rfl, h⟩

theorem getReference_spec (A : Arch) (c : Cache) (g : Nat) (h : CacheOK A c) :
    (getReference current A c g).2 =
      (if g < 16 then .err else segPure A { group := g, inGroup := 0, rev := false, rawLen := 0 }) ∧
    CacheOK A (getReference current A c g).1 := by
  unfold getReference
  cases hc : cacheGet c g with
  | some r =>
    obtain ⟨hg, hr⟩ := h _ _ hc
    have h1 : ¬ g < 16 := by omega
    have h2 : g ≥ 16 := hg
    simp only [h1, if_false, segPure, hr, h2, if_true]
    exact ⟨trivial, h⟩
  | none =>
    simp only [current, if_true]
    by_cases h1 : g < 16
    · simp only [h1, if_true]; exact ⟨trivial, h⟩
    · simp only [h1, if_false]
      exact getSegment_spec A c _ h

/-! ## loops: the caching loader against the pure loader

Each loop is followed along the branches the caching run takes (`fun_induction`): the tests do not
involve the loader, and where the caching loader returned `(c1, r)` the pure loader returns `r`
(`getSegment_eq`), so the pure run takes the same branch. -/

theorem pureLoad_apply (A : Arch) (u : Unit) (d : Seg) : pureLoad A u d = ((), segPure A d) := rfl

theorem getSegment_eq (A : Arch) (c c1 : Cache) (d : Seg) (r : Res Bases) (h : CacheOK A c)
    (hg : getSegment A c d = (c1, r)) : segPure A d = r ∧ CacheOK A c1 := by
  have := getSegment_spec A c d h
  rw [hg] at this
  exact ⟨this.1.symm, this.2⟩

theorem reconstructLoop_spec (A : Arch) (k : Nat) (segs : List Seg) (c : Cache) (first : Bool) (acc : Bases)
    (h : CacheOK A c) :
    (reconstructLoop (getSegment A) k c first segs acc).2 =
      (reconstructLoop (pureLoad A) k () first segs acc).2 ∧
    CacheOK A (reconstructLoop (getSegment A) k c first segs acc).1 := by
  fun_induction reconstructLoop (getSegment A) k c first segs acc <;> rw [reconstructLoop]
  case case1 => exact ⟨rfl, h⟩ -- no segment left
  case case2 d _ _ c1 _ hg _ ih => -- first segment: taken whole
    obtain ⟨hs, h1⟩ := getSegment_eq A _ c1 d _ h hg
    simp only [pureLoad_apply, hs]
    exact ih h1
  case case3 d _ _ c1 _ hg _ hf hlt => -- later segment shorter than `k`: `bail!`
    obtain ⟨hs, h1⟩ := getSegment_eq A _ c1 d _ h hg
    simp only [pureLoad_apply, hs]
    rw [if_neg hf, if_pos hlt]
    exact ⟨rfl, h1⟩
  case case4 d _ _ c1 _ hg _ hf hlt ih => -- later segment: its first `k` bytes dropped
    obtain ⟨hs, h1⟩ := getSegment_eq A _ c1 d _ h hg
    simp only [pureLoad_apply, hs]
    rw [if_neg hf, if_neg hlt]
    exact ih h1
  case case5 d _ _ c1 hg | case6 d _ _ c1 hg => -- the loader answers `err` / `panic`
    obtain ⟨hs, h1⟩ := getSegment_eq A _ c1 d _ h hg
    simp only [pureLoad_apply, hs]
    exact ⟨trivial, h1⟩

theorem reconstruct_spec (A : Arch) (k : Nat) (c : Cache) (segs : List Seg) (h : CacheOK A c) :
    (reconstruct (getSegment A) k c segs).2 = (reconstruct (pureLoad A) k () segs).2 ∧
    CacheOK A (reconstruct (getSegment A) k c segs).1 :=
  reconstructLoop_spec A k segs c true [] h

theorem collectLoop_spec (A : Arch) (k : Nat) (segs : List Seg) (start e : Nat)
    (ranges : List (Nat × Nat × Nat)) (c : Cache) (acc : Bases) (h : CacheOK A c) :
    (collectLoop (getSegment A) k segs start e c ranges acc).2 =
      (collectLoop (pureLoad A) k segs start e () ranges acc).2 ∧
    CacheOK A (collectLoop (getSegment A) k segs start e c ranges acc).1 := by
  fun_induction collectLoop (getSegment A) k segs start e c ranges acc <;> rw [collectLoop]
  case case1 => exact ⟨rfl, h⟩ -- no range left
  case case2 hle ih => rw [if_pos hle]; exact ih h -- `continue`
  case case3 hle hge => rw [if_neg hle, if_pos hge]; exact ⟨rfl, h⟩ -- `break`
  case case4 hle hge hn => rw [if_neg hle, if_neg hge, hn]; exact ⟨rfl, h⟩ -- index panic
  case case5 hle hge d hd c1 _ hg _ _ _ _ _ _ hc ih => -- the guarded slice is copied
    obtain ⟨hs, h1⟩ := getSegment_eq A _ c1 d _ h hg
    rw [if_neg hle, if_neg hge, hd]
    simp only [pureLoad_apply, hs]
    rw [if_pos hc]
    exact ih h1
  case case6 hle hge d hd c1 _ hg _ _ _ _ _ _ hc ih => -- the guard fails: nothing copied
    obtain ⟨hs, h1⟩ := getSegment_eq A _ c1 d _ h hg
    rw [if_neg hle, if_neg hge, hd]
    simp only [pureLoad_apply, hs]
    rw [if_neg hc]
    exact ih h1
  case case7 hle hge d hd c1 hg | case8 hle hge d hd c1 hg => -- the loader answers `err` / `panic`
    obtain ⟨hs, h1⟩ := getSegment_eq A _ c1 d _ h hg
    rw [if_neg hle, if_neg hge, hd]
    simp only [pureLoad_apply, hs]
    exact ⟨trivial, h1⟩

theorem rangeOf_spec (A : Arch) (k : Nat) (c : Cache) (segs : List Seg) (start end_ : Nat)
    (h : CacheOK A c) :
    (rangeOf (getSegment A) k c segs start end_).2 = (rangeOf (pureLoad A) k () segs start end_).2 ∧
    CacheOK A (rangeOf (getSegment A) k c segs start end_).1 := by
  unfold rangeOf
  split
  · exact ⟨rfl, h⟩
  · simp only []
    split
    · exact ⟨rfl, h⟩
    · exact collectLoop_spec A k segs start _ _ c [] h

theorem sampleLoop_spec (A : Arch) (k : Nat) (cs : List Contig) (c : Cache) (acc : List (Name × Bases))
    (h : CacheOK A c) :
    (sampleLoop (getSegment A) k c cs acc).2 = (sampleLoop (pureLoad A) k () cs acc).2 ∧
      CacheOK A (sampleLoop (getSegment A) k c cs acc).1 := by
  induction cs generalizing c acc with
  | nil => exact ⟨rfl, h⟩
  | cons x rest ih =>
    obtain ⟨h1, h2⟩ := reconstruct_spec A k c x.segs h
    unfold sampleLoop
    rcases hp : reconstruct (pureLoad A) k () x.segs with ⟨u, rp⟩
    rcases hgs : reconstruct (getSegment A) k c x.segs with ⟨c1, r⟩
    rw [hgs, hp] at h1
    rw [hgs] at h2
    simp only at h1 h2 ⊢
    subst h1
    cases r with
    | ok data => exact ih c1 _ h2
    | err => exact ⟨rfl, h2⟩
    | panic => exact ⟨rfl, h2⟩

theorem stepGetSample_spec (A : Arch) (st : State) (s : Name) (hwf : WF A) (h : Inv A st) :
    (stepGetSample current A st s).2 = answerSample A s ∧ Inv A (stepGetSample current A st s).1 := by
  obtain ⟨st1, he, hi, _, hv⟩ := ensureLoaded_spec A st s hwf h
  unfold stepGetSample answerSample
  rw [he]
  simp only [hv]
  cases contigsOf A.samples (table A) s with
  | none => exact ⟨rfl, hi⟩
  | some cs =>
    obtain ⟨h1, h2⟩ := sampleLoop_spec A A.k cs st1.cache [] hi.cache
    simp only []
    exact ⟨h1, inv_cache A st1 _ hi h2⟩

theorem samplesLoop_spec (A : Arch) (hwf : WF A) (names : List Name) (st : State)
    (acc : List (Name × List (Name × Bases))) (h : Inv A st) :
    (samplesLoop current A st names acc).2 = answerSamples A names acc ∧
      Inv A (samplesLoop current A st names acc).1 := by
  induction names generalizing st acc with
  | nil => exact ⟨rfl, h⟩
  | cons s rest ih =>
    obtain ⟨h1, h2⟩ := stepGetSample_spec A st s hwf h
    unfold samplesLoop answerSamples
    rw [← h1]
    rcases hgs : stepGetSample current A st s with ⟨st1, r⟩
    rw [hgs] at h2
    simp only at h2 ⊢
    cases r with
    | ok x => exact ih st1 _ h2
    | err => exact ⟨rfl, h2⟩
    | panic => exact ⟨rfl, h2⟩

theorem withDesc_spec (A : Arch) (st : State) (s c : Name) (hwf : WF A) (h : Inv A st)
    (f : Cache → List Seg → Cache × Result) (g : List Seg → Result)
    (hf : ∀ ca segs, CacheOK A ca → (f ca segs).2 = g segs ∧ CacheOK A (f ca segs).1) :
    (withDesc current A st s c f).2 = answerDesc A s c g ∧ Inv A (withDesc current A st s c f).1 := by
  obtain ⟨st1, he, hi, _, hv⟩ := ensureLoaded_spec A st s hwf h
  unfold withDesc answerDesc contigDesc
  rw [he]
  simp only [hv]
  cases contigsOf A.samples (table A) s with
  | none => exact ⟨rfl, hi⟩
  | some cs =>
    simp only []
    cases (findContig cs c) with
    | none => exact ⟨rfl, hi⟩
    | some x =>
      obtain ⟨h1, h2⟩ := hf st1.cache x.segs hi.cache
      simp only [Option.map]
      exact ⟨h1, inv_cache A st1 _ hi h2⟩

theorem step_spec (A : Arch) (st : State) (op : Op) (hwf : WF A) (h : Inv A st) :
    (step A st op).2 = answer A op ∧ Inv A (step A st op).1 := by
  cases op with
  | listSamples | listSamplesWithPrefix p | compressionStats | cloneForThread => exact ⟨rfl, h⟩
  | listContigs s =>
    obtain ⟨st1, he, hi, _, hv⟩ := ensureLoaded_spec A st s hwf h
    simp only [step, stepV, answer, he, hv]
    cases contigsOf A.samples (table A) s <;> exact ⟨rfl, hi⟩
  | contigLength s c | segmentsDesc s c =>
    exact withDesc_spec A st s c hwf h _ _ (fun ca segs hc => ⟨rfl, hc⟩)
  | contigRange s c start end_ =>
    simp only [step, stepV, answer]
    split
    · exact ⟨rfl, h⟩
    · exact withDesc_spec A st s c hwf h _ _ (fun ca segs hc =>
        (rangeOf_spec A A.k ca segs start end_ hc).imp (congrArg (mapRes Val.bases)) id)
  | getContig s c =>
    exact withDesc_spec A st s c hwf h _ _ (fun ca segs hc =>
      (reconstruct_spec A A.k ca segs hc).imp (congrArg (mapRes Val.bases)) id)
  | segmentData d =>
    exact (getSegment_spec A st.cache d h.cache).imp (congrArg (mapRes Val.bases)) (inv_cache A st _ h)
  | referenceSegment g =>
    obtain ⟨h1, h2⟩ := getReference_spec A st.cache g h.cache
    refine ⟨?_, inv_cache A st _ h h2⟩
    simp only [step, stepV, answer, h1]
    split <;> rfl
  | getSample s =>
    exact (stepGetSample_spec A st s hwf h).imp (congrArg (mapRes Val.sample)) id
  | writeSampleFasta s =>
    exact (stepGetSample_spec A st s hwf h).imp (congrArg (mapRes _)) id
  | getSamplesByPrefix p =>
    exact (samplesLoop_spec A hwf _ st [] h).imp (congrArg (mapRes Val.samples)) id
  | groupStatistics | allSegments =>
    simp only [step, stepV, answer, loadAll_current_eq A st hwf h.len]
    cases allSegsOf A.samples (table A) A.samples <;> exact ⟨rfl, hwf, Or.inr rfl, h.cache⟩

theorem inv_run (A : Arch) (hwf : WF A) (ops : List Op) :
    ∀ st, Inv A st → Inv A (run A st ops).1 := by
  induction ops with
  | nil => intro st h; exact h
  | cons op ops ih =>
    intro st h
    unfold run runV
    exact ih _ (step_spec A st op hwf h).2

theorem results_run (A : Arch) (hwf : WF A) (ops : List Op) :
    ∀ st, Inv A st → (run A st ops).2 = ops.map (answer A) := by
  induction ops with
  | nil => intro st h; rfl
  | cons op ops ih =>
    intro st h
    obtain ⟨h1, h2⟩ := step_spec A st op hwf h
    unfold run runV
    simp only [List.map_cons]
    rw [← h1]
    congr 1
    exact ih _ h2

/-- Pre-repair: any `get_sample` on a fresh handle (known or unknown name) loads the table and leaves
the cursor at the end of the table; an unknown name is answered with `err`. -/
theorem stepGetSample_old_fresh (A : Arch) (hwf : WF A) (s : Name) :
    ∃ c r, stepGetSample preRepair A (fresh A) s
        = ({ contigs := table A, cursor := (table A).length, cache := c }, r) ∧
      (s ∉ A.samples → r = .err) := by
  rw [stepGetSample, ensureLoaded, if_pos (needsLoad_of_untouched A _ s _ rfl), loadAll_old_fresh A hwf]
  simp only []
  cases h : contigsOf A.samples (table A) s with
  | none => exact ⟨_, _, rfl, fun _ => rfl⟩
  | some cs => exact ⟨_, _, rfl, fun hs => by rw [contigsOf_unknown _ _ _ hs] at h; cases h⟩

/-- Pre-repair: with the cursor at (or past) the end, a query that triggers loading panics. -/
theorem stepGetSample_old_miss (A : Arch) (st : State) (miss : Name) (b : MBatch) (bs : List MBatch)
    (hb : A.batches = b :: bs) (hne : b ≠ []) (hmiss : miss ∉ A.samples)
    (hc : st.contigs.length ≤ st.cursor) :
    (stepGetSample preRepair A st miss).2 = .panic := by
  rw [stepGetSample, ensureLoaded, if_pos (needsLoad_of_unknown A st miss hmiss),
    loadAll_old_again A st b bs hb hne hc]

/-- One action of the program: every handle keeps the invariant, an operation answers the
specification, a clone succeeds. -/
theorem sysStep_spec (A : Arch) (hwf : WF A) (hs : List State) (a : SysOp) (h : ∀ st ∈ hs, Inv A st) :
    (∀ st ∈ (sysStep A hs a).1, Inv A st) ∧
      ∀ res, (sysStep A hs a).2 = some res →
        res = match a with
          | .on _ op => answer A op
          | .clone _ => .ok .unit := by
  cases a with
  | on i op =>
    rw [sysStep]
    cases hi : hs[i]? with
    | none => exact ⟨h, fun _ hr => nomatch hr⟩
    | some st =>
      obtain ⟨h1, h2⟩ := step_spec A st op hwf (h st (List.mem_of_getElem? hi))
      refine ⟨fun x hx => ?_, fun res hr => ?_⟩
      · rcases List.mem_or_eq_of_mem_set hx with hx | hx
        · exact h x hx
        · exact hx ▸ h2
      · cases hr
        exact h1
  | clone i =>
    rw [sysStep]
    cases hs[i]? with
    | none => exact ⟨h, fun _ hr => nomatch hr⟩
    | some st =>
      exact ⟨List.forall_mem_append.mpr ⟨h, List.forall_mem_singleton.mpr (inv_fresh A)⟩,
        fun res hr => by cases hr; rfl⟩

theorem sysRun_spec (A : Arch) (hwf : WF A) (acts : List SysOp) :
    ∀ hs : List State, (∀ st ∈ hs, Inv A st) →
      (∀ st ∈ (sysRun A hs acts).1, Inv A st) ∧
      ∀ r ∈ (sysRun A hs acts).2.zip acts, ∀ res, r.1 = some res →
        res = match r.2 with
          | .on _ op => answer A op
          | .clone _ => .ok .unit := by
  induction acts with
  | nil => intro hs h; exact ⟨h, fun r hr => nomatch hr⟩
  | cons a rest ih =>
    intro hs h
    obtain ⟨hs1, hs2⟩ := sysStep_spec A hwf hs a h
    obtain ⟨ih1, ih2⟩ := ih (sysStep A hs a).1 hs1
    rw [sysRun]
    refine ⟨ih1, fun r hr res hres => ?_⟩
    rcases List.mem_cons.mp hr with rfl | hr
    · exact hs2 res hres
    · exact ih2 r hr res hres

end Ragc.ReaderState
