import RagcModel.Model.StreamNames
namespace Ragc.StreamNames

/-- The 64 digits of the regenerated table are pairwise distinct: `0-9`, `A-Z`, `a-z` are three runs
of consecutive codes, and `_`, `#` lie outside all of them. -/
theorem digits_nodup : Ragc.Gen.b64Digits.Nodup := by
  have h : Ragc.Gen.b64Digits =
      List.range' 48 10 ++ (List.range' 65 26 ++ (List.range' 97 26 ++ [95, 35])) := rfl
  rw [h]
  simp only [List.nodup_append, List.mem_range'_1, List.mem_append, List.mem_cons,
    List.not_mem_nil, or_false, List.nodup_cons, List.nodup_nil, and_true]
  refine ⟨List.nodup_range', ⟨List.nodup_range', ⟨List.nodup_range', by decide, ?_⟩, ?_⟩, ?_⟩ <;>
    intro a ha b hb <;> omega

theorem digits_length : Ragc.Gen.b64Digits.length = 64 := by decide

theorem digitAt_eq {i : Nat} (hi : i < 64) :
    digitAt i = Ragc.Gen.b64Digits[i]'(by rw [digits_length]; exact hi) := by
  unfold digitAt
  rw [List.getD_eq_getElem?_getD, List.getElem?_eq_getElem, Option.getD_some]

theorem digitAt_inj {i j : Nat} (hi : i < 64) (hj : j < 64) (h : digitAt i = digitAt j) : i = j := by
  rw [digitAt_eq hi, digitAt_eq hj] at h
  exact (List.getElem_inj digits_nodup).mp h

theorem intToBase64_eq (n : Nat) :
    intToBase64 n = digitAt (n % 64) :: if n / 64 = 0 then [] else intToBase64 (n / 64) := by
  rw [intToBase64]
  split <;> rfl

theorem intToBase64_ne_nil (n : Nat) : intToBase64 n ≠ [] := by
  rw [intToBase64_eq]
  exact List.cons_ne_nil _ _

theorem div64_lt {n : Nat} (h : n / 64 ≠ 0) : n / 64 < n :=
  Nat.div_lt_self (Nat.pos_of_ne_zero fun h0 => h (h0 ▸ Nat.zero_div 64)) (by decide)

theorem intToBase64_inj : ∀ (n m : Nat), intToBase64 n = intToBase64 m → n = m := by
  intro n
  induction n using Nat.strongRecOn with
  | _ n ih =>
    intro m h
    rw [intToBase64_eq n, intToBase64_eq m, List.cons.injEq] at h
    have h1 := digitAt_inj (Nat.mod_lt _ (by decide)) (Nat.mod_lt _ (by decide)) h.1
    have h2 : n / 64 = m / 64 := by
      have ht := h.2
      by_cases hn : n / 64 = 0 <;> by_cases hm : m / 64 = 0
      · rw [hn, hm]
      · rw [if_pos hn, if_neg hm] at ht; exact absurd ht.symm (intToBase64_ne_nil _)
      · rw [if_neg hn, if_pos hm] at ht; exact absurd ht (intToBase64_ne_nil _)
      · rw [if_neg hn, if_neg hm] at ht; exact ih _ (div64_lt hn) _ ht
    rw [← Nat.div_add_mod n 64, ← Nat.div_add_mod m 64, h1, h2]

theorem refName_inj (g g' : Nat) (h : refName g = refName g') : g = g' :=
  intToBase64_inj g g' (List.append_cancel_right (List.cons.inj h).2)

theorem deltaName_inj (g g' : Nat) (h : deltaName g = deltaName g') : g = g' :=
  intToBase64_inj g g' (List.append_cancel_right (List.cons.inj h).2)

/-- A reference stream and a delta stream never share a name: the last characters differ. -/
theorem refName_ne_deltaName (g g' : Nat) : refName g ≠ deltaName g' := fun h =>
  absurd (List.cons.inj (List.append_inj' (List.cons.inj h).2 rfl).2).1 (by decide)

end Ragc.StreamNames
