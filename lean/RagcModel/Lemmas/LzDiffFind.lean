import RagcModel.Model.LzDiff
/-!
C09: soundness of the verified selection (`find_best_match_lp` without the table): whatever
candidate positions are supplied, a reported match really is a match.
-/
namespace Ragc.Model.LzDiff
open Ragc.Gen

theorem matchLen_le (t r : Array Nat) : ∀ (n ti ri : Nat), matchLen t r ti ri n ≤ n := by
  intro n ti ri
  fun_induction matchLen t r ti ri n with
  | case1 => exact Nat.le_refl 0
  | case2 ti ri n b hb ha ih => exact Nat.succ_le_succ ih
  | case3 | case4 => exact Nat.zero_le _

theorem matchLen_spec (t r : Array Nat) : ∀ (n ti ri j : Nat), j < matchLen t r ti ri n →
    ∃ a, t[ti + j]? = some a ∧ r[ri + j]? = some a := by
  intro n ti ri
  fun_induction matchLen t r ti ri n with
  | case1 | case3 | case4 => intro j h; exact absurd h (Nat.not_lt_zero j)
  | case2 ti ri n b hb ha ih =>
    intro j h
    cases j with
    | zero => exact ⟨b, ha, hb⟩
    | succ j =>
      obtain ⟨c, h1, h2⟩ := ih j (Nat.lt_of_succ_lt_succ h)
      exact ⟨c, Nat.add_right_comm ti 1 j ▸ h1, Nat.add_right_comm ri 1 j ▸ h2⟩

theorem backLen_le (t r : Array Nat) : ∀ (n ti ri : Nat), backLen t r ti ri n ≤ n := by
  intro n ti ri
  fun_induction backLen t r ti ri n with
  | case1 => exact Nat.le_refl 0
  | case2 ti ri n b hb ha ih => exact Nat.succ_le_succ ih
  | case3 | case4 => exact Nat.zero_le _

theorem backLen_spec (t r : Array Nat) : ∀ (n ti ri j : Nat),
    j < backLen t r ti ri n → ∃ a, t[ti - 1 - j]? = some a ∧ r[ri - 1 - j]? = some a := by
  intro n ti ri
  fun_induction backLen t r ti ri n with
  | case1 | case3 | case4 => intro j h; exact absurd h (Nat.not_lt_zero j)
  | case2 ti ri n b hb ha ih =>
    intro j h
    cases j with
    | zero => exact ⟨b, ha, hb⟩
    | succ j =>
      obtain ⟨c, h1, h2⟩ := ih j (Nat.lt_of_succ_lt_succ h)
      refine ⟨c, ?_, ?_⟩
      · rw [Nat.add_comm j 1, Nat.sub_add_eq]; exact h1
      · rw [Nat.add_comm j 1, Nat.sub_add_eq]; exact h2

/-- A candidate `(p, b, f)` = (`h_pos`, `len_bck`, `len_fwd`) at text position `ti` is a real match:
    `f` symbols forward from `(ti, p)` and `b` symbols backward agree, `b` is covered by the
    previous literals, and `f` reaches the key length. -/
structure CandOK (refP t : Array Nat) (ti npl k p b f : Nat) : Prop where
  bnpl : b ≤ npl
  bti : b ≤ ti
  bp : b ≤ p
  fwd : ∀ j, j < f → ∃ a, t[ti + j]? = some a ∧ refP[p + j]? = some a
  bck : ∀ j, j < b → ∃ a, t[ti - 1 - j]? = some a ∧ refP[p - 1 - j]? = some a
  key : k ≤ f

/-- What `find_best_match_lp` guarantees about a reported match. -/
structure MatchOK (refP t : Array Nat) (ti npl mm k p b f : Nat) : Prop extends CandOK refP t ti npl k p b f where
  tot : mm ≤ b + f

/-- The probe loop reports only what it was given or has accepted: a predicate that holds of the
    initial best and of every candidate the loop can accept (forward length at least `k`) holds of
    the reported match, whose total length reaches `mm`. (`selectBest_fwd` in the model file is the
    instance `P _ b f := b + f = 0 ∨ k ≤ f`, proved there on its own because the termination proof of
    `encLoop` needs it and the model cannot import this file.) -/
theorem selectBest_found {mm k : Nat} {refP t : Array Nat} {code : UInt64} {ti maxLen npl : Nat}
    {P : Nat → Nat → Nat → Prop}
    (hP : ∀ h, k ≤ matchLen t refP ti h (min maxLen (min (t.size - ti) (refP.size - h))) →
      P h (backLen t refP ti h (min npl (min h ti)))
        (matchLen t refP ti h (min maxLen (min (t.size - ti) (refP.size - h)))))
    (cands : List Nat) (best : Best) {p b f : Nat} (hb : P best.pos best.bck best.fwd)
    (h : selectBest mm k refP t code ti maxLen npl cands best = .found p b f) :
    P p b f ∧ mm ≤ b + f := by
  fun_induction selectBest mm k refP t code ti maxLen npl cands best with
  | case1 best hge => -- candidates exhausted, the best is reported
    cases h
    exact ⟨hb, hge⟩
  | case2 | case4 => cases h -- no match; panic
  | case7 hd tl best _ c _ _ f' hf _ _ ih => exact ih (hP hd hf) h -- candidate accepted as the new best
  | case3 | case5 | case6 | case8 | case9 => rename_i ih; exact ih hb h -- candidate skipped

/-- **Soundness of the finder for every candidate list.** The initial best `(0, 0, 0)` is no match,
    but its total `0 < mm` is never reported. -/
theorem findBest_sound {mm : Nat} {refP t : Array Nat} {code : UInt64} {ti npl : Nat} {cands : List Nat}
    {p b f : Nat} (hmm : lzHashingStep ≤ mm)
    (h : findBest mm refP t code ti npl cands = .found p b f) :
    MatchOK refP t ti npl mm (keyLen mm) p b f := by
  have h4 : 0 < lzHashingStep := by decide
  obtain ⟨hc | hc, htot⟩ := selectBest_found
    (P := fun p b f => b + f = 0 ∨ CandOK refP t ti npl (keyLen mm) p b f)
    (fun hd hf => Or.inr {
      bnpl := Nat.le_trans (backLen_le ..) (Nat.min_le_left ..)
      bti := Nat.le_trans (backLen_le ..) (Nat.le_trans (Nat.min_le_right ..) (Nat.min_le_right ..))
      bp := Nat.le_trans (backLen_le ..) (Nat.le_trans (Nat.min_le_right ..) (Nat.min_le_left ..))
      fwd := matchLen_spec t refP _ ti hd
      bck := backLen_spec t refP _ ti hd
      key := hf }) cands _ (Or.inl rfl) h
  · omega
  · exact { toCandOK := hc, tot := htot }

/-- The whole matched segment, counted from its back-extended start. -/
theorem MatchOK.segment {refP t : Array Nat} {ti npl mm k p b f : Nat}
    (h : MatchOK refP t ti npl mm k p b f) :
    ∀ j, j < b + f → ∃ a, t[ti - b + j]? = some a ∧ refP[p - b + j]? = some a := by
  intro j hj
  by_cases hjb : j < b
  · have idx : ∀ x, b ≤ x → x - 1 - (b - 1 - j) = x - b + j := fun x hx => by omega
    obtain ⟨a, ha, hb⟩ := h.bck (b - 1 - j) (by omega)
    exact ⟨a, idx ti h.bti ▸ ha, idx p h.bp ▸ hb⟩
  · have idx : ∀ x, b ≤ x → x + (j - b) = x - b + j := fun x hx => by
      rw [← Nat.add_sub_assoc (Nat.le_of_not_lt hjb), Nat.sub_add_comm hx]
    obtain ⟨a, ha, hb⟩ := h.fwd (j - b) (by omega)
    exact ⟨a, idx ti h.bti ▸ ha, idx p h.bp ▸ hb⟩

theorem MatchOK.bounds {refP t : Array Nat} {ti npl mm p b f : Nat} (hmm : lzHashingStep ≤ mm)
    (h : MatchOK refP t ti npl mm (keyLen mm) p b f) :
    ti + f ≤ t.size ∧ p + f ≤ refP.size := by
  have hf : 1 ≤ f := Nat.le_trans (show 1 ≤ mm + 1 - lzHashingStep by omega) h.key
  obtain ⟨a, ha, hb⟩ := h.fwd (f - 1) (Nat.sub_lt hf Nat.one_pos)
  obtain ⟨h1, _⟩ := Array.getElem?_eq_some_iff.mp ha
  obtain ⟨h2, _⟩ := Array.getElem?_eq_some_iff.mp hb
  have e : f - 1 + 1 = f := Nat.sub_add_cancel hf
  exact ⟨e ▸ (h1 : ti + (f - 1 + 1) ≤ t.size), e ▸ (h2 : p + (f - 1 + 1) ≤ refP.size)⟩

end Ragc.Model.LzDiff
