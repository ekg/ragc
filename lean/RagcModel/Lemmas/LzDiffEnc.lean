import RagcModel.Lemmas.LzDiffFind
import RagcModel.Lemmas.LzDiffLex
/-!
C09: the token-level decoder, the encoder loop invariant `Inv` with one preservation lemma per step,
and the loop itself as a rule (`encLoop_rule`: a state predicate kept by the literal, N-run and match
steps holds at the exit), from which the round trip, the shape of the emitted tokens and
non-emptiness follow for every candidate supplier.
-/
namespace Ragc.Model.LzDiff
open Ragc.Gen

section
variable {refP : Array Nat} {refLen : Nat}

theorem decToks_append (a b : List Tok) (st : List Nat × Nat) :
    decToks refP refLen (a ++ b) st =
      match decToks refP refLen a st with
      | none => none
      | some st' => decToks refP refLen b st' := by
  induction a generalizing st with
  | nil => rfl
  | cons x xs ih =>
    rw [List.cons_append, decToks, decToks]
    cases stepTok refP refLen st x with
    | none => rfl
    | some st' => exact ih st'

theorem decToks_snoc {a : List Tok} {x : Tok} {st st' : List Nat × Nat}
    (h : decToks refP refLen a st = some st') :
    decToks refP refLen (a ++ [x]) st = stepTok refP refLen st' x := by
  rw [decToks_append, h]
  show decToks refP refLen [x] st' = _
  rw [decToks]
  cases stepTok refP refLen st' x <;> rfl

theorem decToks_snoc_inv {a : List Tok} {x : Tok} {st r : List Nat × Nat}
    (h : decToks refP refLen (a ++ [x]) st = some r) :
    ∃ st', decToks refP refLen a st = some st' ∧ stepTok refP refLen st' x = some r := by
  cases h1 : decToks refP refLen a st with
  | none => rw [decToks_append, h1] at h; cases h
  | some st' => exact ⟨st', rfl, decToks_snoc h1 ▸ h⟩

theorem decToks_lits (l : List Nat) (o : List Nat) (p : Nat) :
    decToks refP refLen (l.map Tok.lit) (o, p) = some (o ++ l, p + l.length) := by
  induction l generalizing o p with
  | nil => rw [List.append_nil]; rfl
  | cons c cs ih =>
    rw [List.map_cons, decToks]
    show decToks refP refLen (cs.map Tok.lit) (o ++ [c], p + 1) = _
    rw [ih, List.append_assoc, List.length_cons, Nat.add_assoc, Nat.add_comm 1]
    rfl

/-- A match whose offset is written relative to `pred` jumps to `amp` and copies `l` symbols from
    there; in the match-to-end form `l` is what is left of the (unpadded) reference. -/
theorem stepTok_mtch (o : List Nat) (pred : Nat) {amp l : Nat} {len : Option Nat}
    (hlen : len = some l ∨ len = none ∧ amp + l = refLen) (hfit : amp + l ≤ refP.size) :
    stepTok refP refLen (o, pred) (.mtch ((amp : Int) - (pred : Int)) len) =
      some (o ++ (refP.extract amp (amp + l)).toList, amp + l) := by
  have hq : (pred : Int) + ((amp : Int) - (pred : Int)) = (amp : Int) := by omega
  have hnn : ¬ (amp : Int) < 0 := Int.not_lt.mpr (Int.natCast_nonneg amp)
  rcases hlen with rfl | ⟨rfl, hl⟩
  · simp only [stepTok, hq, Int.toNat_natCast, if_neg hnn, if_pos hfit]
  · have h1 : ¬ refLen < amp := hl ▸ Nat.not_lt.mpr (Nat.le_add_right amp l)
    have h2 : refLen - amp = l := hl ▸ Nat.add_sub_cancel_left ..
    simp only [stepTok, hq, Int.toNat_natCast, if_neg hnn, if_neg h1, h2, if_pos hfit]

/-- a prefix grows by a window that agrees position-wise with a window of another list. -/
theorem take_add_of_agree {l r : List Nat} {i s n : Nat} (h : ∀ j, j < n → l[i + j]? = r[s + j]?) :
    l.take (i + n) = l.take i ++ (r.drop s).take n := by
  rw [List.take_add]
  congr 1
  apply List.ext_getElem?
  intro j
  rw [List.getElem?_take, List.getElem?_take, List.getElem?_drop, List.getElem?_drop]
  split
  · next hj => exact h j hj
  · rfl

theorem tailLits_eq (t : Array Nat) (i : Nat) (toks : List Tok) :
    tailLits t i toks = ((t.toList.drop i).map Tok.lit).reverse ++ toks := by
  rw [tailLits, Array.toList_extract, List.extract_eq_take_drop]
  rw [List.take_of_length_le (by rw [List.length_drop, Array.length_toList]; exact Nat.le_refl _)]

/-- Rewriting does not change what the token list decodes to, whenever the decoder's `pred_pos`
    after the list is `amp + 1 - k` (the guard `adjusted_match_pos == pred_pos` with `k = 1`);
    the scan bound plays no role. -/
theorem bangScan_sound {amp : Nat} (bound : Nat) {st0 : List Nat × Nat}
    {toks : List Tok} {k : Nat} {o : List Nat} {P : Nat}
    (h : decToks refP refLen toks.reverse st0 = some (o, P)) (hk : P + k = amp + 1) :
    decToks refP refLen (bangScan refP amp bound k toks).reverse st0 = some (o, P) := by
  fun_induction bangScan refP amp bound k toks generalizing o P with
  | case1 k c rest _ ih => -- a literal within the bound: rewritten or kept, the scan goes on
    rw [List.reverse_cons] at h ⊢
    obtain ⟨⟨o', p'⟩, h1, h2⟩ := decToks_snoc_inv h
    cases h2
    rw [decToks_snoc (ih h1 (by omega))]
    split
    · next hc =>
      -- the decoder is at `p' = amp - k`, where the reference holds `c`
      rw [show amp = p' + k by omega, Nat.add_sub_cancel] at hc
      simp only [stepTok, hc]
    · rfl
  | case2 | case3 => exact h -- a literal past the bound, or another token: the scan stops

theorem rewriteBang_sound {amp pred esz : Nat} {st0 : List Nat × Nat} {toks : List Tok} {o : List Nat}
    (h : decToks refP refLen toks.reverse st0 = some (o, pred)) :
    decToks refP refLen (rewriteBang refP amp pred esz toks).reverse st0 = some (o, pred) := by
  unfold rewriteBang
  split
  · next he => exact bangScan_sound _ h (by omega)
  · exact h

theorem bangScan_mem {amp bound : Nat} {toks : List Tok} {k : Nat} {x : Tok}
    (h : x ∈ bangScan refP amp bound k toks) : x = Tok.bang ∨ x ∈ toks := by
  fun_induction bangScan refP amp bound k toks with
  | case1 k c rest _ ih => -- a literal within the bound
    rcases List.mem_cons.mp h with h | h
    · split at h
      · exact Or.inl h
      · exact Or.inr (h ▸ List.mem_cons_self)
    · exact (ih h).imp_right (List.mem_cons_of_mem _)
  | case2 | case3 => exact Or.inr h -- the scan stops

theorem rewriteBang_mem {amp pred esz : Nat} {toks : List Tok} {x : Tok}
    (h : x ∈ rewriteBang refP amp pred esz toks) : x = Tok.bang ∨ x ∈ toks := by
  unfold rewriteBang at h
  split at h
  · exact bangScan_mem h
  · exact Or.inr h

theorem countN_spec (t : Array Nat) : ∀ (n j m : Nat), m < countN t j n → t[j + m]? = some lzNCode := by
  intro n j
  fun_induction countN t j n with
  | case1 | case3 => intro m h; exact absurd h (Nat.not_lt_zero m)
  | case2 j n hj ih =>
    intro m h
    cases m with
    | zero => exact hj
    | succ m => exact Nat.add_right_comm j 1 m ▸ ih m (Nat.lt_of_succ_lt_succ h)

theorem nrunLen_spec (t : Array Nat) (i m : Nat) (h : m < nrunLen t i) : t[i + m]? = some lzNCode := by
  unfold nrunLen at h
  split at h
  · exact absurd h (Nat.not_lt_zero m)
  · split at h
    · next h3 =>
      match m with
      | 0 => exact h3.1
      | 1 => exact h3.2.1
      | 2 => exact h3.2.2
      | m + 3 =>
        have := countN_spec t _ (i + 3) m (Nat.lt_of_add_lt_add_left (Nat.add_comm m 3 ▸ h))
        rwa [Nat.add_assoc, Nat.add_comm 3] at this
    · exact absurd h (Nat.not_lt_zero m)

end

/-- **Invariant J** of Appendix A.1: for every `j ≤ no_prev_literals`, the tokens without the `j`
    newest decode to the first `i - j` target symbols with `pred_pos - j`. -/
def Inv (refP : Array Nat) (refLen : Nat) (t : Array Nat) (i pred npl : Nat) (toks : List Tok) : Prop :=
  ∀ j, j ≤ npl → decToks refP refLen (toks.drop j).reverse ([], 0) = some (t.toList.take (i - j), pred - j)

section
variable {refP : Array Nat} {refLen : Nat} {t : Array Nat} {i pred npl : Nat} {toks : List Tok}

theorem Inv.zero (h : Inv refP refLen t i pred npl toks) :
    decToks refP refLen toks.reverse ([], 0) = some (t.toList.take i, pred) :=
  h 0 (Nat.zero_le _)

/-- what the newest token has to do for the invariant to hold again with no pending literals. -/
theorem Inv.push {i' pred' : Nat} {x : Tok} {toks' : List Tok} {o : List Nat}
    (h : decToks refP refLen toks'.reverse ([], 0) = some (o, pred))
    (hx : stepTok refP refLen (o, pred) x = some (t.toList.take i', pred')) :
    Inv refP refLen t i' pred' 0 (x :: toks') := by
  intro j hj
  cases Nat.le_zero.mp hj
  rw [List.drop_zero, List.reverse_cons, decToks_snoc h]
  exact hx

theorem Inv.lit {c : Nat} (h : Inv refP refLen t i pred npl toks) (hc : t[i]? = some c) :
    Inv refP refLen t (i + 1) (pred + 1) (npl + 1) (.lit c :: toks) := by
  intro j hj
  cases j with
  | zero =>
    rw [List.drop_zero, List.reverse_cons, decToks_snoc h.zero]
    show some (t.toList.take i ++ [c], pred + 1) = _
    rw [Nat.sub_zero, List.take_add_one, Array.getElem?_toList, hc]
    rfl
  | succ j =>
    rw [List.drop_succ_cons, Nat.add_sub_add_right, Nat.add_sub_add_right]
    exact h j (Nat.le_of_succ_le_succ hj)

theorem Inv.nrun (h : Inv refP refLen t i pred npl toks) :
    Inv refP refLen t (i + nrunLen t i) pred 0 (.nrun (nrunLen t i) :: toks) := by
  refine Inv.push h.zero ?_
  have hseg := take_add_of_agree (l := t.toList) (r := List.replicate (nrunLen t i) lzNCode) (i := i) (s := 0)
    (n := nrunLen t i) (fun m hm => by
      rw [Array.getElem?_toList, nrunLen_spec t i m hm, Nat.zero_add, List.getElem?_replicate, if_pos hm])
  rw [List.drop_zero, List.take_replicate, Nat.min_self] at hseg
  rw [hseg]
  rfl

/-- the match step (482-544): pop `bck` literals, rewrite bangs, emit the match. -/
theorem Inv.mtch {mm mpos bck fwd esz : Nat} (hmm : lzHashingStep ≤ mm)
    (h : Inv refP refLen t i pred npl toks)
    (hm : MatchOK refP t i npl mm (keyLen mm) mpos bck fwd) :
    Inv refP refLen t (i - bck + (bck + fwd)) (mpos - bck + (bck + fwd)) 0
      (Tok.mtch (((mpos - bck : Nat) : Int) - ((pred - bck : Nat) : Int))
          (matchLenField refLen t.size (i - bck) (bck + fwd) mpos fwd)
        :: rewriteBang refP (mpos - bck) (pred - bck) esz (toks.drop bck)) := by
  refine Inv.push (rewriteBang_sound (h bck hm.bnpl)) ?_
  have e : mpos - bck + (bck + fwd) = mpos + fwd := by rw [← Nat.add_assoc, Nat.sub_add_cancel hm.bp]
  have hfit : mpos - bck + (bck + fwd) ≤ refP.size := e ▸ (hm.bounds hmm).2
  -- the copied slice is the next `bck + fwd` target symbols
  have hseg : t.toList.take (i - bck + (bck + fwd)) =
      t.toList.take (i - bck) ++ (refP.extract (mpos - bck) (mpos - bck + (bck + fwd))).toList := by
    rw [Array.toList_extract, List.extract_eq_take_drop, Nat.add_sub_cancel_left]
    refine take_add_of_agree (fun m hm' => ?_)
    obtain ⟨a, ha, hr⟩ := hm.segment m hm'
    rw [Array.getElem?_toList, Array.getElem?_toList, ha, hr]
  rw [hseg]
  unfold matchLenField
  split
  · next hend => exact stepTok_mtch _ _ (Or.inr ⟨rfl, e ▸ hend.2⟩) hfit
  · exact stepTok_mtch _ _ (Or.inl rfl) hfit

theorem Inv.tail (h : Inv refP refLen t i pred npl toks) :
    ∃ p, decToks refP refLen (tailLits t i toks).reverse ([], 0) = some (t.toList, p) := by
  refine ⟨pred + (t.toList.drop i).length, ?_⟩
  rw [tailLits_eq, List.reverse_append, List.reverse_reverse, decToks_append, h.zero]
  show decToks refP refLen ((t.toList.drop i).map Tok.lit) (t.toList.take i, pred) = _
  rw [decToks_lits, List.take_append_drop]

end

section
variable {S : UInt64 → List Nat} {mm : Nat} {hmm : lzHashingStep ≤ mm} {refP : Array Nat}
  {refLen : Nat} {t : Array Nat}

/-- **The encoder loop as a rule.** A state predicate that the three steps preserve (literal,
    N run, match: the finder contributes only `MatchOK`) holds of the state the loop exits from,
    and the result is that state's tokens with the tail literals. -/
theorem encLoop_rule {P : Nat → Nat → Nat → List Tok → Prop} {Q : List Tok → Prop}
    (hlit : ∀ {i pred npl toks c}, t[i]? = some c → P i pred npl toks →
      P (i + 1) (pred + 1) (npl + 1) (.lit c :: toks))
    (hnrun : ∀ {i pred npl toks}, lzMinNRunLen ≤ nrunLen t i → P i pred npl toks →
      P (i + nrunLen t i) pred 0 (.nrun (nrunLen t i) :: toks))
    (hmtch : ∀ {i pred npl toks mpos bck fwd}, MatchOK refP t i npl mm (keyLen mm) mpos bck fwd →
      P i pred npl toks →
      P (i - bck + (bck + fwd)) (mpos - bck + (bck + fwd)) 0
        (Tok.mtch (((mpos - bck : Nat) : Int) - ((pred - bck : Nat) : Int))
            (matchLenField refLen t.size (i - bck) (bck + fwd) mpos fwd)
          :: rewriteBang refP (mpos - bck) (pred - bck) (encLen mm (toks.drop bck)) (toks.drop bck)))
    (hexit : ∀ {i pred npl toks}, P i pred npl toks → Q (tailLits t i toks))
    {i pred npl : Nat} {toks : List Tok} {xprev : Option UInt64} {res : List Tok}
    (h0 : P i pred npl toks)
    (hres : encLoop S mm hmm refP refLen t i pred npl toks xprev = some res) : Q res := by
  fun_induction encLoop S mm hmm refP refLen t i pred npl toks xprev with
  | case1 | case3 | case5 | case6 => cases hres -- the four panics (`none`)
  | case2 i pred npl toks xprev hlt hx hn ih => exact ih (hnrun hn h0) hres -- N run
  | case4 i pred npl toks xprev hlt hx hn c hc ih => -- k-mer with a non-ACGT symbol: literal
    exact ih (hlit hc h0) hres
  | case7 i pred npl toks xprev hlt code hx hf c hc ih => -- no match: literal
    exact ih (hlit hc h0) hres
  | case8 i pred npl toks xprev hlt code hx mpos bck fwd hf i' pred' toks' total amp tok toks'' ih => -- match
    exact ih (hmtch (findBest_sound hmm hf) h0) hres
  | case9 i pred npl toks xprev hlt => -- loop exit
    cases hres
    exact hexit h0

theorem encLoop_tokAll (P : Nat → Prop) (hP : ∀ c, c ∈ t.toList → P c)
    {i pred npl : Nat} {toks : List Tok} {xprev : Option UInt64} {res : List Tok}
    (htoks : ∀ x, x ∈ toks → TokAll mm P x)
    (hres : encLoop S mm hmm refP refLen t i pred npl toks xprev = some res) :
    ∀ x, x ∈ res → TokAll mm P x := by
  refine encLoop_rule (P := fun _ _ _ toks => ∀ x, x ∈ toks → TokAll mm P x)
    (Q := fun res => ∀ x, x ∈ res → TokAll mm P x) ?_ ?_ ?_ ?_ htoks hres
  · intro i _ _ toks c hc h
    exact List.forall_mem_cons.mpr ⟨hP c (Array.mem_toList_iff.mpr (Array.mem_of_getElem? hc)), h⟩
  · intro i _ _ toks hn h
    exact List.forall_mem_cons.mpr ⟨hn, h⟩
  · intro i pred _ toks mpos bck fwd hm h
    refine List.forall_mem_cons.mpr ⟨?_, fun x hx => ?_⟩
    · show TokAll mm P (Tok.mtch _ (matchLenField refLen t.size (i - bck) (bck + fwd) mpos fwd))
      unfold matchLenField
      split
      · exact True.intro
      · exact hm.tot
    · rcases rewriteBang_mem hx with rfl | hx
      · exact True.intro
      · exact h x (List.mem_of_mem_drop hx)
  · intro i _ _ toks h x hx
    rw [tailLits_eq, List.mem_append, List.mem_reverse, List.mem_map] at hx
    rcases hx with ⟨c, hc, rfl⟩ | hx
    · exact hP c (List.mem_of_mem_drop hc)
    · exact h x hx

/-- **Invariant E**: the loop never returns the empty token list once a token has been emitted or
    there is still input. -/
theorem encLoop_ne_nil {i pred npl : Nat} {toks : List Tok} {xprev : Option UInt64} {res : List Tok}
    (h : toks ≠ [] ∨ i < t.size)
    (hres : encLoop S mm hmm refP refLen t i pred npl toks xprev = some res) : res ≠ [] := by
  refine encLoop_rule (P := fun i _ _ toks => toks ≠ [] ∨ i < t.size) (Q := fun res => res ≠ [])
    (fun _ _ => Or.inl (List.cons_ne_nil _ _)) (fun _ _ => Or.inl (List.cons_ne_nil _ _))
    (fun _ _ => Or.inl (List.cons_ne_nil _ _)) ?_ h hres
  intro i _ _ toks h hnil
  rw [tailLits_eq, List.append_eq_nil_iff, List.reverse_eq_nil_iff, List.map_eq_nil_iff,
    List.drop_eq_nil_iff, Array.length_toList] at hnil
  rcases h with h | h
  · exact h hnil.2
  · exact Nat.not_le_of_lt h hnil.1

end

theorem zip_all_eq_iff : ∀ (a b c : List Nat), a.length = b.length →
    ((a.zip (b ++ c)).all (fun p => p.1 == p.2) = true ↔ a = b) := by
  intro a
  induction a with
  | nil =>
    intro b c h
    have : b = [] := List.eq_nil_of_length_eq_zero (by simpa using h.symm)
    subst this
    simp
  | cons x xs ih =>
    intro b c h
    cases b with
    | nil => simp at h
    | cons y ys =>
      simp only [List.length_cons, Nat.add_right_cancel_iff] at h
      simp only [List.cons_append, List.zip_cons_cons, List.all_cons, Bool.and_eq_true, beq_iff_eq,
        ih ys c h, List.cons.injEq]

/-- the `target == reference` test (lines 405-410) decides equality. -/
theorem eqTest_iff (mm : Nat) (ref tgt : List Nat) :
    (tgt.length = ref.length ∧ (tgt.zip (padRef mm ref).toList).all (fun p => p.1 == p.2) = true) ↔ tgt = ref := by
  unfold padRef
  simp only []
  constructor
  · rintro ⟨h1, h2⟩
    exact (zip_all_eq_iff tgt ref _ h1).mp h2
  · rintro rfl
    exact ⟨rfl, (zip_all_eq_iff tgt tgt _ rfl).mpr rfl⟩

end Ragc.Model.LzDiff
