import RagcModel.Model.Details
import RagcModel.Lemmas.Names
import RagcModel.Lemmas.Details
/-! Batches of samples and the `samples_loaded` cursor (C03). -/
namespace Ragc.Details
open Ragc.CollVarint Ragc.Zigzag Ragc.Names

/-- A sample as the reader knows it after `load_batch_sample_names`. -/
def blank (s : Sample) : Sample := { name := s.name, contigs := [] }

/-- A sample after its contig names have been loaded (no descriptors yet). -/
def named (s : Sample) : Sample :=
  { name := s.name, contigs := s.contigs.map (fun c => { name := c.name, segs := [] }) }

theorem assignNames_skip (done l : List Sample) (nss : List (List Name)) :
    assignNames (done ++ l) done.length nss = done ++ assignNames l 0 nss := by
  induction done with
  | nil => simp
  | cons x xs ih =>
    cases nss with
    | nil => simp [assignNames]
    | cons n ns => simp only [List.cons_append, List.length_cons, assignNames, ih]

theorem assignNames_batch (batch rest : List Sample) :
    assignNames ((batch ++ rest).map blank) 0 (namesOf batch) = batch.map named ++ rest.map blank := by
  induction batch with
  | nil => simp [namesOf, assignNames]
  | cons s ss ih =>
    simp only [namesOf, List.map_cons, List.cons_append, assignNames] at ih ⊢
    rw [ih]
    simp [named, blank, List.map_map, Function.comp_def]

theorem assignSegs_skip (done l : List Sample) (b : Batch) :
    assignSegs (done ++ l) done.length b = done ++ assignSegs l 0 b := by
  induction done with
  | nil => simp
  | cons x xs ih =>
    cases b with
    | nil => simp [assignSegs]
    | cons n ns => simp only [List.cons_append, List.length_cons, assignSegs, ih]

theorem assignSegsContigs_named (cs : List Contig) :
    assignSegsContigs (cs.map (fun c => ({ name := c.name, segs := [] } : Contig))) (cs.map Contig.segs) = cs := by
  induction cs with
  | nil => simp [assignSegsContigs]
  | cons c cs ih => simp only [List.map_cons, assignSegsContigs, ih]

theorem assignSegs_batch (batch : List Sample) (rest : List Sample) :
    assignSegs (batch.map named ++ rest) 0 (segsOf batch) = batch ++ rest := by
  induction batch with
  | nil => simp [segsOf, assignSegs]
  | cons s ss ih =>
    simp only [segsOf, List.map_cons, List.cons_append, assignSegs] at ih ⊢
    rw [ih]
    simp [named, assignSegsContigs_named]

theorem fits_batch (batch rest : List Sample) :
    fits ((batch.map named ++ rest).map (fun s => s.contigs.length)) (segsOf batch) = true := by
  induction batch with
  | nil => simp [segsOf, fits]
  | cons s ss ih =>
    simp only [segsOf, List.map_cons, List.cons_append, fits] at ih ⊢
    rw [ih]
    simp [named]

/-- Well-formed catalogue entries: the hypotheses of the codec theorems. -/
def SampleOk (s : Sample) : Prop :=
  NameOk s.name ∧ s.contigs.length < 4294967296 ∧
    ∀ c ∈ s.contigs, NameOk c.name ∧ c.segs.length < 4294967296 ∧ ∀ g ∈ c.segs, SegOk g

/-- Loading one stored batch at the cursor: the reader's samples are `done` (loaded), then the
    samples of this batch and the later ones still `blank`; afterwards the batch is filled in
    (through `named`: names first, then descriptors) and the cursor has moved past it. -/
theorem loadBatch_storeBatch (segSize k : Nat) (done batch rest : List Sample) (lb : Nat)
    (hpred : segSize + k ≤ 2147483648) (hlen : batch.length < 4294967296)
    (hok : ∀ s ∈ batch, SampleOk s) :
    loadBatch segSize k
      { samples := done ++ (batch ++ rest).map blank, loaded := done.length, lastBatch := lb }
      (storeBatch segSize k batch)
    = .ok { samples := done ++ batch ++ rest.map blank, loaded := done.length + batch.length,
            lastBatch := batch.length } := by
  have hnames : decodeNames ((done ++ (batch ++ rest).map blank).length - done.length)
      (encodeNames (namesOf batch)) = .ok (namesOf batch) := by
    refine decodeNames_encodeNames _ _ ?_ ?_ (List.forall_mem_map.mpr fun x hx =>
      ⟨by rw [List.length_map]; exact (hok x hx).2.1,
        List.forall_mem_map.mpr fun c hc => ((hok x hx).2.2 c hc).1⟩)
    · rw [namesOf, List.length_map]; exact hlen
    · rw [namesOf, List.length_map, List.length_append, Nat.add_sub_cancel_left, List.length_map,
        List.length_append]
      exact Nat.le_add_right _ _
  have hdet : decodeDetailsL segSize k
      ((batch.map named ++ rest.map blank).map (fun s => s.contigs.length))
      (encodeDetails segSize k (segsOf batch)) = .ok (segsOf batch) := by
    refine decodeDetailsL_encodeDetails segSize k (segsOf batch) _ hpred
      ⟨by rw [segsOf, List.length_map]; exact hlen, List.forall_mem_map.mpr fun x hx =>
        ⟨by rw [List.length_map]; exact (hok x hx).2.1,
          List.forall_mem_map.mpr fun c hc => ((hok x hx).2.2 c hc).2.1⟩⟩
      ?_ (fits_batch batch (rest.map blank))
    exact List.forall_mem_map.mpr fun x hx => List.forall_mem_map.mpr fun c hc =>
      ((hok x hx).2.2 c hc).2.2
  rw [loadBatch, storeBatch]
  simp only [hnames]
  rw [assignNames_skip, assignNames_batch, List.drop_left, hdet]
  simp only [assignSegs_skip, assignSegs_batch, namesOf, List.length_map, List.append_assoc]

theorem loadBatches_storeBatches (segSize k card : Nat) (hcard : 0 < card) (hc32 : card < 4294967296)
    (hpred : segSize + k ≤ 2147483648) (todo : List Sample) :
    ∀ (done : List Sample) (lb : Nat), (∀ s ∈ todo, SampleOk s) →
    ∃ lb', loadBatches segSize k
        { samples := done ++ todo.map blank, loaded := done.length, lastBatch := lb }
        (storeBatches segSize k card todo)
      = .ok { samples := done ++ todo, loaded := (done ++ todo).length, lastBatch := lb' } := by
  induction todo using storeBatches.induct card with
  | case1 todo h =>
    intro done lb _
    obtain rfl : todo = [] := h.resolve_right (Nat.ne_of_gt hcard)
    exact ⟨lb, by rw [storeBatches, dif_pos h, loadBatches, List.map_nil, List.append_nil]⟩
  | case2 todo h ih =>
    intro done lb hok
    have hlb := loadBatch_storeBatch segSize k done (todo.take card) (todo.drop card) lb hpred
      (Nat.lt_of_le_of_lt (List.length_take_le card todo) hc32)
      (fun s hs => hok s (List.mem_of_mem_take hs))
    obtain ⟨lb', hrec⟩ := ih (done ++ todo.take card) (todo.take card).length
      (fun s hs => hok s (List.mem_of_mem_drop hs))
    rw [List.take_append_drop] at hlb
    refine ⟨lb', ?_⟩
    rw [storeBatches, dif_neg h, loadBatches, hlb]
    simpa only [List.append_assoc, List.take_append_drop, List.length_append] using hrec

theorem storeLoad_ok (segSize k card : Nat) (ss : List Sample) (hcard : 0 < card) (hc32 : card < 4294967296)
    (hpred : segSize + k ≤ 2147483648) (hlen : ss.length < 4294967296) (hok : ∀ s ∈ ss, SampleOk s) :
    ∃ lb, storeLoad segSize k card ss = .ok { samples := ss, loaded := ss.length, lastBatch := lb } := by
  obtain ⟨lb, h⟩ := loadBatches_storeBatches segSize k card hcard hc32 hpred ss [] 0 hok
  refine ⟨lb, ?_⟩
  rw [storeLoad, decodeSampleNames_encodeSampleNames (ss.map Sample.name)
    (by rw [List.length_map]; exact hlen) (List.forall_mem_map.mpr fun s hs => (hok s hs).1)]
  simp only [freshColl, List.map_map]
  exact h

end Ragc.Details
