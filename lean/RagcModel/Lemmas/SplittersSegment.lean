import RagcModel.Lemmas.Segment
import RagcModel.Lemmas.SplittersPicks
import RagcModel.Lemmas.SplittersWindows
/-!
Segmenting a reference with its own splitters (C11 §9).

The main loop of `split_at_splitters_with_size` (split at every full window whose canonical value
is in the set, then `kmer.reset()`) is `findLoop isS 0` restricted to its loop picks: with
`segment_size = 0` the test `current_len >= segment_size` is always true. Run on a contig of the
reference with the reference's splitters it cuts exactly at the pick positions of the second pass
(`findLoop_zero_eq_chain`, with `singleton_window_unique`: a splitter occurs nowhere else). The bridge to
C10's model (`Model/Segment.lean`, split events `cuts`, segments `build`) turns the gaps between
the picks into interior segment lengths.
-/
namespace Ragc.Splitters
open Ragc.Kmer Ragc.Segment

/-- The segmenter loop (`segment_size = 0`: split at every full window passing `isS`, then reset)
    against a chained list of expected picks `P`: if every element of `P` is an `isS` window
    chained from the current restart point, and every `isS` window from here on is at a position
    of `P`, then the loop picks exactly at `P`. With `segment_size = 0` the counter `cl` never
    blocks a pick and `recent` only feeds the end rule, so the loop picks depend on neither. -/
theorem findLoop_zero_eq_chain (isS : UInt64 → Bool) (k : Nat) (h1 : 1 ≤ k) (c : List UInt64)
    (bs : List UInt64) (n s : Nat) (km : Kmer) (cl : Nat) (recent : List (Nat × UInt64))
    (P : List Pick) (hd : c.drop n = bs) (ht : Tracks k c s n km) (hch : ChainW k c s P)
    (hP : ∀ p ∈ P, n ≤ p.pos ∧ p.pos < c.length ∧ isS p.kmer = true)
    (hB : ∀ q v s', n ≤ q → q < c.length → WindowAt k c s' q v → isS v = true →
      ∃ p ∈ P, p.pos = q) :
    ((findLoop isS 0 km cl recent n bs).filter (fun p => !p.atEnd)).map Pick.pos
      = P.map Pick.pos := by
  induction bs generalizing n s km cl recent P with
  | nil =>
    rw [findLoop, filter_loop_endPick]
    cases P with
    | nil => rfl
    | cons p _ =>
      have := hP p List.mem_cons_self
      exact absurd (Nat.lt_of_le_of_lt this.1 this.2.1)
        (Nat.not_lt.mpr (List.drop_eq_nil_iff.mp hd))
  | cons b bs ih =>
    have ht' := ht.step hd
    obtain ⟨_, hd', hn⟩ := take_succ_of_drop hd
    -- a pick of `P` at the present position is its head
    have head : ∀ p ∈ P, p.pos = n → ∃ p0 ps, P = p0 :: ps ∧ p0.pos = n := by
      intro p hp hpn
      cases P with
      | nil => cases hp
      | cons p0 ps =>
        refine ⟨p0, ps, rfl, ?_⟩
        rcases List.mem_cons.mp hp with rfl | hp'
        · exact hpn
        · exact absurd (hpn ▸ hch.2.2.le p hp') (Nat.not_lt.mpr (hP p0 List.mem_cons_self).1)
    rw [findLoop_cons]
    split
    · next h =>
      rw [feed_singleton, if_neg h.1] at ht'
      obtain ⟨p, hp, hpn⟩ :=
        hB n _ s (Nat.le_refl _) hn ((ht'.windowAt _).mpr ⟨h.2.1, rfl⟩) h.2.2.2
      obtain ⟨p0, ps, rfl, h0⟩ := head p hp hpn
      have hlt : ∀ q ∈ ps, p0.pos < q.pos := hch.2.2.le
      rw [List.filter_cons_of_pos rfl, List.map_cons, List.map_cons, h0]
      refine congrArg _ (ih (n + 1) (n + 1) _ 1 [] ps hd' ht'.restart (h0 ▸ hch.2.2)
        (fun q hq => ⟨h0 ▸ hlt q hq, (hP q (List.mem_cons_of_mem _ hq)).2⟩)
        fun q v s' hq hql hwq hsv => ?_)
      obtain ⟨p', hp', hq'⟩ := hB q v s' (Nat.le_of_succ_le hq) hql hwq hsv
      rcases List.mem_cons.mp hp' with rfl | hp''
      · exact absurd (hq' ▸ h0 ▸ hq) (Nat.lt_irrefl _)
      · exact ⟨p', hp'', hq'⟩
    · next h =>
      -- the loop does not pick here, so no pick of `P` is here: its window would be picked
      have later : ∀ p ∈ P, n + 1 ≤ p.pos := fun p hp =>
        Nat.lt_of_le_of_ne (hP p hp).1 fun hpn => by
          obtain ⟨p0, ps, rfl, h0⟩ := head p hp hpn.symm
          obtain ⟨hf, hv⟩ := (ht'.windowAt _).mp (h0 ▸ hch.2.1)
          have hb : ¬ b > 3 := fun hb => by
            rw [feed_singleton, if_pos hb, ht.isFull_reset h1] at hf; cases hf
          rw [feed_singleton, if_neg hb] at hf hv
          exact h ⟨hb, hf, Nat.zero_le _, hv ▸ (hP p0 List.mem_cons_self).2.2⟩
      exact ih (n + 1) s _ _ _ P hd' ht' hch (fun p hp => ⟨later p hp, (hP p hp).2⟩)
        fun q v s' hq => hB q v s' (Nat.le_of_succ_le hq)

/-- `v` is the canonical value of the `k` bases ending at position `q` of `c`. -/
def WindowEnds (k : Nat) (c : List UInt64) (q : Nat) (v : UInt64) : Prop :=
  q < c.length ∧ k ≤ q + 1 ∧ Valid (lastK k (c.take (q + 1))) ∧ v = canon (lastK k (c.take (q + 1)))

/-- `WindowAt` in from-scratch terms: the last `k` symbols up to and including position `q` are
    bases, and the value is their canonical packing. -/
theorem WindowAt.ends {k : Nat} (h1 : 1 ≤ k) (h32 : k ≤ 32) {c : List UInt64} {s q : Nat}
    {v : UInt64} (h : WindowAt k c s q v) (hq : q < c.length) : WindowEnds k c q v := by
  obtain ⟨_, hfull, hdata⟩ := h
  -- the window `u` is a suffix of the current run of bases, hence of `c[..q]`
  have hu := inv_feed_new h1 h32 ((c.take (q + 1)).drop s)
  have hsuf : lastK k (baseRun [] ((c.take (q + 1)).drop s)) <:+ c.take (q + 1) :=
    (List.drop_suffix _ _).trans ((baseRun_suffix [] _).trans (List.drop_suffix s _))
  generalize lastK k (baseRun [] ((c.take (q + 1)).drop s)) = u at hu hsuf
  have hlen : u.length = k := of_decide_eq_true ((inv_isFull hu).symm.trans hfull)
  obtain ⟨t, ht⟩ := hsuf
  have hl : lastK k (c.take (q + 1)) = u := by rw [← ht]; exact lastK_append_right hlen
  refine ⟨hq, ?_, hl ▸ hu.valid, by rw [hl, ← hdata]; exact inv_data hu⟩
  have := congrArg List.length ht
  rw [List.length_append, hlen, List.length_take_of_le (Nat.succ_le_of_lt hq)] at this
  exact Nat.le_trans (Nat.le_add_left _ _) (Nat.le_of_eq this)

theorem WindowEnds.start {k : Nat} {c : List UInt64} {q : Nat} {v : UInt64}
    (h : WindowEnds k c q v) :
    q + 1 - k + k ≤ c.length ∧ BasesOnly ((c.drop (q + 1 - k)).take k)
      ∧ canon ((c.drop (q + 1 - k)).take k) = v := by
  obtain ⟨hq, hk, hval, hv⟩ := h
  rw [lastK, List.length_take_of_le (Nat.succ_le_of_lt hq), List.drop_take,
    Nat.sub_sub_self hk] at hval hv
  exact ⟨(Nat.sub_add_cancel hk).symm ▸ Nat.succ_le_of_lt hq, hval, hv.symm⟩

/-- Every pick of the second pass is at the end of `k` bases and carries their canonical value. -/
theorem findPicks_ends (isCand : UInt64 → Bool) {k : Nat} (seg : Nat) (h1 : 1 ≤ k) (h32 : k ≤ 32)
    {c : List UInt64} {p : Pick} (hp : p ∈ findPicks isCand k seg c) :
    WindowEnds k c p.pos p.kmer :=
  let ⟨_, hw⟩ := (findPicks_chain isCand k seg c).windowAt p hp
  hw.ends h1 h32 (findPicks_pos_lt isCand k seg c hp)

theorem count_flatMap_of_mem {α β : Type} [BEq α] [LawfulBEq α] [BEq β] (f : α → List β) (v : β)
    {cs : List α} {c : α} (hc : c ∈ cs) :
    (cs.flatMap f).count v = (f c).count v + ((cs.erase c).flatMap f).count v := by
  rw [((List.perm_cons_erase hc).flatMap_right f).count_eq, List.flatMap_cons, List.count_append]

/-- A canonical k-mer that occurs once among the k-mers of the reference is the value of one
    window of one contig only. -/
theorem singleton_window_unique {cs : List (List UInt64)} {k : Nat} (h1 : 1 ≤ k) (h32 : k ≤ 32)
    {v : UInt64} (hcount : (allKmers cs k).count v = 1) {c c' : List UInt64} (hc : c ∈ cs)
    (hc' : c' ∈ cs) {q q' : Nat} (hw : WindowEnds k c q v) (hw' : WindowEnds k c' q' v) :
    c' = c ∧ q' = q := by
  obtain ⟨hi, hb, hv⟩ := hw.start
  obtain ⟨hi', hb', hv'⟩ := hw'.start
  have hk := hw.2.1
  have hk' := hw'.2.1
  rw [allKmers, count_flatMap_of_mem _ v hc, enumerateKmers_eq_windowsSpec k h1 h32] at hcount
  by_cases hcc : c' = c
  · subst hcc
    have hle : (windowsSpec canon k c').count v ≤ 1 := hcount ▸ Nat.le_add_right _ _
    refine ⟨rfl, Nat.le_antisymm ?_ ?_⟩ <;> refine Nat.le_of_not_lt fun hlt => ?_
    · exact absurd (Nat.le_trans (count_two_windows canon k h1 c' _ _ v
        (Nat.sub_lt_sub_right hk (Nat.succ_lt_succ hlt)) hi' hb hv hb' hv') hle) (by decide)
    · exact absurd (Nat.le_trans (count_two_windows canon k h1 c' _ _ v
        (Nat.sub_lt_sub_right hk' (Nat.succ_lt_succ hlt)) hi hb' hv' hb hv) hle) (by decide)
  · have a := count_one_window canon k h1 c _ v hi hb hv
    have b := count_one_window canon k h1 c' _ v hi' hb' hv'
    rw [count_flatMap_of_mem _ v ((List.mem_erase_of_ne hcc).mpr hc'),
      enumerateKmers_eq_windowsSpec k h1 h32] at hcount
    exact absurd (hcount ▸ Nat.add_le_add a (Nat.le_trans b (Nat.le_add_right _ _))) (by decide)

/-- The split events of `split_at_splitters_with_size` over the `Kmer` tracker are the loop picks
    of the second pass run with `segment_size = 0` and the splitter set as candidate test. -/
theorem cuts_eq_findLoop (isS : UInt64 → Bool) (rest : List UInt8) (st : Kmer) (pos cl : Nat)
    (recent : List (Nat × UInt64)) :
    (cuts kmerTracker isS true st pos rest).map (fun c => c.e)
      = ((findLoop isS 0 st cl recent pos (rest.map UInt8.toUInt64)).filter
          (fun p => !p.atEnd)).map (fun p => p.pos + 1) := by
  induction rest generalizing st pos cl recent with
  | nil => rw [List.map_nil, findLoop, filter_loop_endPick]; rfl
  | cons b rest ih =>
    rw [List.map_cons, findLoop_cons, feed_singleton, cuts]
    by_cases hb : b > 3
    · rw [if_pos hb, if_pos ((u8_gt3_iff b).mpr hb), if_neg fun h => h.1 ((u8_gt3_iff b).mpr hb)]
      exact ih _ _ _ _
    · have hb' : ¬ b.toUInt64 > 3 := fun h => hb ((u8_gt3_iff b).mp h)
      rw [if_neg hb, if_neg hb']
      by_cases hc : kmerTracker.isFull (kmerTracker.insert st b.toUInt64) = true
          ∧ isS (kmerTracker.data (kmerTracker.insert st b.toUInt64)) = true
      · have hp : ¬ b.toUInt64 > 3 ∧ isFull (insert st b.toUInt64) = true ∧ 0 ≤ cl
            ∧ isS (data (insert st b.toUInt64)) = true := ⟨hb', hc.1, Nat.zero_le _, hc.2⟩
        rw [if_pos hc, if_pos hp, List.filter_cons_of_pos rfl]
        exact congrArg _ (ih _ _ _ _)
      · rw [if_neg hc, if_neg fun h => hc ⟨h.2.1, h.2.2.2⟩]
        exact ih _ _ _ _

theorem dropLast2_eq_nil {α : Type} {l : List α} (h : l.length ≤ 2) : (l.dropLast).dropLast = [] :=
  List.eq_nil_of_length_eq_zero (by
    rw [List.length_dropLast, List.length_dropLast, Nat.sub_sub]; exact Nat.sub_eq_zero_of_le h)

theorem dropLast_append_sublist {α : Type} (l : List α) {ep : List α} (h : ep.length ≤ 1) :
    (l ++ ep).dropLast.Sublist l := by
  match ep, h with
  | [], _ => rw [List.append_nil]; exact List.dropLast_sublist l
  | [e], _ => rw [List.dropLast_concat]; exact List.Sublist.refl l

theorem mem_dropLast2_cons {α : Type} {x y : α} {B : List α}
    (h : x ∈ ((y :: B).dropLast).dropLast) :
    (x = y ∧ 2 ≤ B.length) ∨ x ∈ (B.dropLast).dropLast := by
  match B with
  | [] => cases h
  | [_] => cases h
  | b1 :: b2 :: B' =>
    rw [List.dropLast_cons_cons, List.dropLast_cons_cons, List.dropLast_cons_cons] at h
    exact (List.mem_cons.mp h).imp_left fun e => ⟨e, Nat.le_add_left 2 _⟩

/-- Lengths of the segments cut after a split at `eprev`: every segment except the last two spans
    a gap of the (all but last) split positions plus the `k`-symbol overlap. -/
theorem build_interior_ge (k seg : Nat) (contig : List UInt8) (tail : List Cut) (eprev : Nat)
    (f : UInt64) (fd : Bool) (hk : k ≤ eprev) (hle : ∀ c ∈ tail, k ≤ c.e ∧ c.e ≤ contig.length)
    (hpw : ((eprev :: tail.map (fun c => c.e)).dropLast).Pairwise (fun a b => a + seg ≤ b)) :
    ∀ x ∈ ((build true k contig (eprev - k) f fd tail).dropLast).dropLast,
      seg + k ≤ x.data.length := by
  induction tail generalizing eprev f fd with
  | nil =>
    intro x hx
    rw [build, dropLast2_eq_nil (Nat.le_succ_of_le (length_finalSegments_le ..))] at hx
    cases hx
  | cons c tail ih =>
    intro x hx
    have hce := hle c List.mem_cons_self
    rw [build] at hx
    rcases mem_dropLast2_cons hx with ⟨rfl, h2⟩ | hx
    · -- two more segments follow, so `c` is not the last split: the gap before it counts
      have hne : tail.map (fun c => c.e) ≠ [] := by
        intro h0
        have ht := List.map_eq_nil_iff.mp h0
        subst ht
        exact absurd (Nat.le_trans h2 (length_finalSegments_le true contig _ _ _)) (by decide)
      rw [List.map_cons, List.dropLast_cons_cons, List.dropLast_cons_of_ne_nil hne] at hpw
      have hgap : eprev + seg ≤ c.e := List.rel_of_pairwise_cons hpw List.mem_cons_self
      show seg + k ≤ ((contig.drop (eprev - k)).take (c.e - (eprev - k))).length
      rw [List.length_take, List.length_drop, Nat.min_eq_left (Nat.sub_le_sub_right hce.2 _)]
      apply Nat.le_sub_of_add_le
      rw [Nat.add_assoc, Nat.add_sub_cancel' hk, Nat.add_comm]
      exact hgap
    · refine ih c.e c.v c.d hce.1 (fun d hd => hle d (List.mem_cons_of_mem _ hd)) ?_ x hx
      rw [List.map_cons, List.dropLast_cons_cons] at hpw
      exact hpw.of_cons

theorem cutsOK_le {k len : Nat} {cs : List Cut} {lo : Nat} (h : CutsOK k len lo cs) :
    ∀ c ∈ cs, k ≤ c.e ∧ c.e ≤ len := by
  induction cs generalizing lo with
  | nil => exact fun _ hc => nomatch hc
  | cons d ds ih => exact List.forall_mem_cons.mpr ⟨⟨h.2.1, h.2.2.1⟩, ih h.2.2.2⟩

/-- From the gaps between split positions to the interior segment lengths of
    `split_at_splitters_with_size` (C10 model). -/
theorem split_interior_ge (isS : UInt64 → Bool) (k seg : Nat) (h1 : 1 ≤ k) (h32 : k ≤ 32)
    (contig : List UInt8) (segs : List Segment)
    (hs : splitAtSplittersWithSize contig isS k seg = some segs)
    (hgap : ((((findPicks isS k 0 (contig.map UInt8.toUInt64)).filter (fun p => !p.atEnd)).map
        Pick.pos).dropLast).Pairwise (fun a b => a + seg ≤ b)) :
    ∀ x ∈ ((segs.drop 1).dropLast).dropLast, seg + k ≤ x.data.length := by
  rw [splitAtSplittersWithSize, splitConcrete_eq true contig isS k h1 h32,
    splitGeneric_eq kmerTracker (new k) isS true k contig h1] at hs
  cases hs
  intro x hx
  split at hx
  · cases hx
  · have hok := cutsOK_le (cuts_ok_zero (kmer_window k) (kmer_init k) isS true contig)
    -- gaps between all but the last split end positions
    have hgapE : (((cuts kmerTracker isS true (new k) 0 contig).map (fun c => c.e)).dropLast).Pairwise
        (fun a b => a + seg ≤ b) := by
      rw [← List.map_dropLast, List.pairwise_map] at hgap
      rw [cuts_eq_findLoop isS contig (new k) 0 0 [], ← List.map_dropLast, List.pairwise_map]
      exact hgap.imp fun h => Nat.add_right_comm _ _ _ ▸ Nat.succ_le_succ h
    generalize cuts kmerTracker isS true (new k) 0 contig = cl at hx hok hgapE
    cases cl with
    | nil =>
      rw [dropLast2_eq_nil] at hx
      · cases hx
      · rw [List.length_drop]
        exact Nat.le_trans (Nat.sub_le _ _) (Nat.le_succ_of_le (length_finalSegments_le ..))
    | cons c1 tail =>
      exact build_interior_ge k seg contig tail c1.e c1.v c1.d (hok c1 List.mem_cons_self).1
        (fun c hc => hok c (List.mem_cons_of_mem _ hc)) hgapE x hx

end Ragc.Splitters
