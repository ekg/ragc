import RagcModel.Model.Fasta
/-!
Lemmas about `Model/Fasta.lean`: lines, the exact characterisation of the reader loop
(`readAll_eq_records`: leading blank lines skipped, every record returned, a record without a name
is an error), the letter table, presentations (`parseFile_render`), sample naming, the writer.
-/
namespace Ragc.Fasta

theorem lines_eq_readLine (t : Bytes) :
    lines t = match readLine t with
      | none => []
      | some (l, r) => l :: lines r := by
  induction t with
  | nil => simp [lines, readLine]
  | cons b rest ih =>
    by_cases hb : b = 10
    · simp [lines, readLine, hb]
    · simp only [lines, readLine, hb, if_false]
      rw [ih]
      cases readLine rest with
      | none => simp [lines]
      | some p => obtain ⟨l, r⟩ := p; simp

theorem lines_cons_ne {x : Nat} (t : Bytes) (hx : x ≠ 10) :
    lines (x :: t) = match lines t with
      | [] => [[x]]
      | l :: ls => (x :: l) :: ls := by
  simp only [lines, hx, if_false]
  cases lines t <;> rfl

theorem lines_line_append {l : Bytes} (t : Bytes) (h : 10 ∉ l) :
    lines (l ++ 10 :: t) = (l ++ [10]) :: lines t := by
  induction l with
  | nil => simp only [List.nil_append, lines, if_true]
  | cons x l ih =>
    rw [List.cons_append, lines_cons_ne _ (fun e => h (e ▸ List.mem_cons_self ..)),
      ih (fun e => h (List.mem_cons_of_mem _ e))]
    rfl

theorem lines_line_open {l : Bytes} (h : 10 ∉ l) (hne : l ≠ []) : lines l = [l] := by
  induction l with
  | nil => exact absurd rfl hne
  | cons x l ih =>
    rw [lines_cons_ne _ (fun e => h (e ▸ List.mem_cons_self ..))]
    cases l with
    | nil => rfl
    | cons y l' => rw [ih (fun e => h (List.mem_cons_of_mem _ e)) (List.cons_ne_nil y l')]

/-- All records of a list of lines when `h` is the current header line, `acc` the raw contig
collected so far: `(header line, raw contig)`; no truncation. -/
def allRecords : Bytes → Bytes → List Bytes → List (Bytes × Bytes)
  | h, acc, [] => [(h, acc)]
  | h, acc, l :: ls =>
    if isHeaderLine l then (h, acc) :: allRecords l [] ls else allRecords h (acc ++ l) ls

/-- The records of a list of lines as `read_contig_raw` frames them: the first line is taken as
a header line whatever it is. -/
def records : List Bytes → List (Bytes × Bytes)
  | [] => []
  | h :: ls => allRecords h [] ls

/-- What `recordResult` accepts: the id is not empty. -/
def good (p : Bytes × Bytes) : Bool := headerId p.1 ≠ []

def conv (p : Bytes × Bytes) : Bytes × Bytes := (headerId p.1, convert p.2)

/-- The reader loop on a list of records: every record, or `none` (`Err`) if one has no name. -/
def readRecords (rs : List (Bytes × Bytes)) : Option (List (Bytes × Bytes)) :=
  if rs.all good then some (rs.map conv) else none

theorem allRecords_readSeqLines (h acc : Bytes) (ls : List Bytes) :
    allRecords h acc ls = (h, (readSeqLines ls acc).1) ::
      (match (readSeqLines ls acc).2.1 with
        | none => []
        | some h' => allRecords h' [] (readSeqLines ls acc).2.2) := by
  induction ls generalizing acc with
  | nil => rfl
  | cons l ls ih =>
    by_cases hl : isHeaderLine l
    · simp only [allRecords, readSeqLines, hl, if_true]
    · simp only [allRecords, readSeqLines, hl, Bool.false_eq_true, if_false]
      exact ih (acc ++ l)

theorem readAll_eq (r : Reader) :
    readAll r = match readContigRaw r with
      | (.eof, _) => some []
      | (.invalid, _) => none
      | (.record id raw, r') => (readAll r').map ((id, convert raw) :: ·) := by
  rw [readAll]
  split <;> rename_i heq <;> simp [heq]

theorem readSeqLines_none (ls : List Bytes) (acc : Bytes) (h : (readSeqLines ls acc).2.1 = none) :
    (readSeqLines ls acc).2.2 = [] := by
  induction ls generalizing acc with
  | nil => rfl
  | cons l ls ih =>
    by_cases hl : isHeaderLine l
    · simp [readSeqLines, hl] at h
    · simp only [readSeqLines, hl, Bool.false_eq_true, if_false] at h ⊢; exact ih (acc ++ l) h

theorem readRecords_cons (p : Bytes × Bytes) (rs : List (Bytes × Bytes)) :
    readRecords (p :: rs) =
      if good p then (readRecords rs).map (conv p :: ·) else none := by
  simp only [readRecords, List.all_cons, List.map_cons]
  cases good p <;> cases rs.all good <;> rfl

theorem readAll_eq_allRecords (r : Reader) :
    readAll r = match takeHeaderLine r with
      | none => some []
      | some (h, ls) => readRecords (allRecords h [] ls) := by
  induction hn : r.size using Nat.strongRecOn generalizing r with
  | _ n ih =>
    rw [readAll_eq, readContigRaw]
    cases hh : takeHeaderLine r with
    | none => rfl
    | some p =>
      obtain ⟨h, ls⟩ := p
      have hlt : (⟨(readSeqLines ls []).2.2, (readSeqLines ls []).2.1⟩ : Reader).size < n :=
        hn ▸ Nat.lt_of_le_of_lt (readSeqLines_size ls []) (takeHeaderLine_size r h ls hh)
      simp only [allRecords_readSeqLines h [] ls, readRecords_cons, good, conv, recordResult]
      by_cases hg : headerId h = []
      · simp [hg]
      · simp only [hg, if_false, ne_eq, not_false_eq_true, decide_true, if_true, ih _ hlt _ rfl]
        congr 1
        cases hnh : (readSeqLines ls []).2.1 with
        | none => simp [takeHeaderLine, readSeqLines_none ls [] hnh, readRecords]
        | some h' => rfl

/-- The exact behaviour of the repaired reader loop on a list of lines: leading blank lines are
skipped, then every record is returned (also those without any line after the header) — or the
whole read fails if some record has no name. -/
theorem readAll_eq_records (ls : List Bytes) :
    readAll ⟨ls, none⟩ = readRecords (records (ls.dropWhile isBlankLine)) := by
  rw [readAll_eq_allRecords]
  simp only [takeHeaderLine]
  cases ls.dropWhile isBlankLine <;> rfl

theorem cnvNum_length : Ragc.Gen.cnvNum.length = 128 := by decide +kernel
theorem keepAbove_eq : Ragc.Gen.keepAbove = 64 := rfl

theorem isUpper_iff {b : Nat} : isUpper b = true ↔ 65 ≤ b ∧ b ≤ 90 := by
  simp only [isUpper, Bool.and_eq_true, decide_eq_true_eq]

theorem isLower_iff {b : Nat} : isLower b = true ↔ 97 ≤ b ∧ b ≤ 122 := by
  simp only [isLower, Bool.and_eq_true, decide_eq_true_eq]

theorem isLetter_iff {b : Nat} :
    isLetter b = true ↔ (65 ≤ b ∧ b ≤ 90) ∨ (97 ≤ b ∧ b ≤ 122) := by
  simp only [isLetter, Bool.or_eq_true, isUpper_iff, isLower_iff]

theorem isHighPunct_iff {b : Nat} :
    isHighPunct b = true ↔ (91 ≤ b ∧ b ≤ 96) ∨ (123 ≤ b ∧ b ≤ 127) := by
  simp only [isHighPunct, Bool.or_eq_true, Bool.and_eq_true, decide_eq_true_eq]

theorem not_letter_and_punct {b : Nat} (h : isLetter b = true) : isHighPunct b = false := by
  rw [isLetter_iff] at h
  rw [← Bool.not_eq_true, isHighPunct_iff]
  omega

/-- The bytes the reader keeps are the letters and the 11 `isHighPunct` bytes: 65‥127. -/
theorem keep_iff (b : Nat) :
    (Ragc.Gen.keepAbove < b && b < Ragc.Gen.cnvNum.length) = (isLetter b || isHighPunct b) := by
  rw [cnvNum_length, keepAbove_eq, Bool.eq_iff_iff]
  simp only [Bool.and_eq_true, Bool.or_eq_true, decide_eq_true_eq, isLetter_iff, isHighPunct_iff]
  omega

/-- Reading entries off a tabulation: if the block `[a, a+n)` of a table is the tabulation of `f`
there, then `l[b] = f b` for `b` in the block. -/
theorem getD_of_block {α : Type} {l : List α} {f : Nat → α} {a n : Nat}
    (h : (l.drop a).take n = (List.range' a n).map f) {b : Nat} (h1 : a ≤ b)
    (h2 : b < a + n) (d : α) : l.getD b d = f b := by
  have hb := congrArg (·[b - a]?) h
  have h3 : b - a < n := Nat.sub_lt_left_of_lt_add h1 h2
  simp only [List.getElem?_map, List.getElem?_take, h3, if_true, List.getElem?_drop,
    Nat.add_sub_cancel' h1, List.getElem?_range', Option.map_some, Nat.one_mul] at hb
  rw [List.getD_eq_getElem?_getD, hb, Option.getD_some]

/-- The table on the bytes the reader keeps, 65‥127: the code of a letter is the index of its upper
case in `ACGTNRYSWKMBDHVU`, 30 for the other letters; the back quote has 32, the other ten 30.
One pass over the block (a look-up per byte would walk the table once for each). -/
theorem cnv_kept_block : (Ragc.Gen.cnvNum.drop 65).take 63 = (List.range' 65 63).map (fun b =>
    if isLetter b then (if iupac.contains (toUpper b) then iupac.idxOf (toUpper b) else 30)
    else if b = 96 then 32 else 30) := by
  decide +kernel

theorem cnv_kept {b : Nat} (h1 : 64 < b) (h2 : b < 128) :
    cnv b = if isLetter b then (if iupac.contains (toUpper b) then iupac.idxOf (toUpper b) else 30)
      else if b = 96 then 32 else 30 :=
  getD_of_block cnv_kept_block h1 h2 0

theorem cnv_letter {b : Nat} (h : isLetter b = true) :
    cnv b = if iupac.contains (toUpper b) then iupac.idxOf (toUpper b) else 30 := by
  have hb := isLetter_iff.mp h
  rw [cnv_kept (by omega) (by omega), if_pos h]

/-- Either case of a letter is a letter with the same upper case: arithmetic on 65‥122, checked
value by value. -/
theorem letter_case_table : ∀ b, b < 123 → isLetter b = true → ∀ c : Bool,
    isLetter (if c then toLower b else toUpper b) = true ∧
      toUpper (if c then toLower b else toUpper b) = toUpper b := by
  decide +kernel

theorem letter_case {b : Nat} (h : isLetter b = true) (c : Bool) :
    isLetter (if c then toLower b else toUpper b) = true ∧
      toUpper (if c then toLower b else toUpper b) = toUpper b :=
  letter_case_table b (by have := isLetter_iff.mp h; omega) h c

theorem cnv_case {b : Nat} (h : isLetter b = true) (c : Bool) :
    cnv (if c then toLower b else toUpper b) = cnv b := by
  obtain ⟨h1, h2⟩ := letter_case h c
  rw [cnv_letter h1, h2, cnv_letter h]

theorem iupac_read : ∀ u ∈ iupac, cnv (iupac.idxOf u) = u := by decide +kernel

theorem outLetter_cnv {b : Nat} (h1 : 64 < b) (h2 : b < 128) :
    outLetter (cnv b) = if isLetter b then normLetter b else 78 := by
  rw [cnv_kept h1 h2, normLetter]
  by_cases hl : isLetter b = true
  · rw [if_pos hl, if_pos hl]
    by_cases hc : iupac.contains (toUpper b) = true
    · have hm := List.contains_iff_mem.mp hc
      have hi : iupac.idxOf (toUpper b) < 16 := List.idxOf_lt_length_of_mem hm
      rw [if_pos hc, if_pos hc, outLetter, if_pos hi]
      exact iupac_read _ hm
    · rw [if_neg hc, if_neg hc]; rfl
  · rw [if_neg hl, if_neg hl]
    by_cases h96 : b = 96
    · rw [if_pos h96]; rfl
    · rw [if_neg h96]; rfl

theorem convert_append (a b : Bytes) : convert (a ++ b) = convert a ++ convert b := by
  simp only [convert, List.filter_append, List.map_append]

theorem convert_cons (b : Nat) (l : Bytes) :
    convert (b :: l) =
      if (isLetter b || isHighPunct b) = true then cnv b :: convert l else convert l := by
  simp only [convert, List.filter_cons, keep_iff]
  split <;> rfl

theorem convert_map_outLetter (raw : Bytes) : (convert raw).map outLetter = normaliseCode raw := by
  simp only [convert, normaliseCode, List.map_map, ← List.filter_congr (fun b _ => keep_iff b)]
  apply List.map_congr_left
  intro b hb
  have hk := (List.mem_filter.mp hb).2
  rw [keepAbove_eq, cnvNum_length, Bool.and_eq_true, decide_eq_true_eq, decide_eq_true_eq] at hk
  exact outLetter_cnv hk.1 hk.2

theorem normaliseCode_eq_normalise {raw : Bytes} (h : ∀ b ∈ raw, isHighPunct b = false) :
    normaliseCode raw = normalise raw := by
  simp only [normaliseCode, normalise]
  rw [List.filter_congr (q := isLetter) (fun b hb => by rw [h b hb, Bool.or_false])]
  exact List.map_congr_left (fun b hb => if_pos (List.mem_filter.mp hb).2)

/-- the lines of a presentation with their line ends (`renderLines` before flattening). -/
def pieces (nl : Bytes) (close : Bool) : List Bytes → List Bytes
  | [] => []
  | [c] => [if close then c ++ nl else c]
  | c :: d :: cs => (c ++ nl) :: pieces nl close (d :: cs)

theorem pieces_cons_ne (nl : Bytes) (close : Bool) (c : Bytes) {cs : List Bytes} (h : cs ≠ []) :
    pieces nl close (c :: cs) = (c ++ nl) :: pieces nl close cs := by
  cases cs with
  | nil => exact absurd rfl h
  | cons d cs => rfl

theorem renderLines_eq_pieces (nl : Bytes) (close : Bool) (ls : List Bytes) :
    renderLines nl close ls = (pieces nl close ls).flatten := by
  fun_induction pieces nl close ls with
  | case1 => rfl
  | case2 c => simp only [renderLines, List.flatten_cons, List.flatten_nil, List.append_nil]
  | case3 c d cs ih => simp only [renderLines, List.flatten_cons, ih]

theorem lines_terminated {c : Bytes} (crlf : Bool) (t : Bytes) (hc : 10 ∉ c) :
    lines (c ++ lineEnd crlf ++ t) = (c ++ lineEnd crlf) :: lines t := by
  have e : lineEnd crlf = (if crlf then [13] else []) ++ [10] := by cases crlf <;> rfl
  have h : 10 ∉ c ++ (if crlf then [13] else []) := by cases crlf <;> simp [hc]
  rw [e, ← List.append_assoc, List.append_assoc _ [10], ← lines_line_append t h]
  rfl

/-- The lines of a text that begins with lines laid out by `pieces`; an unterminated last
line (`close = false`) must end the text. -/
theorem lines_pieces (crlf close : Bool) (ls : List Bytes) (t : Bytes)
    (h : ∀ l ∈ ls, 10 ∉ l ∧ l ≠ []) (ht : close = false → t = []) :
    lines ((pieces (lineEnd crlf) close ls).flatten ++ t) =
      pieces (lineEnd crlf) close ls ++ lines t := by
  fun_induction pieces (lineEnd crlf) close ls with
  | case1 => rfl
  | case2 c =>
    have hc := h c (List.mem_singleton_self c)
    cases close with
    | true => simpa using lines_terminated crlf t hc.1
    | false => simpa [ht rfl, lines] using lines_line_open hc.1 hc.2
  | case3 c d cs ih =>
    rw [List.flatten_cons, List.append_assoc, lines_terminated crlf _ (h c (List.mem_cons_self ..)).1,
      ih (fun l hl => h l (List.mem_cons_of_mem _ hl))]
    rfl

/-- lines of a whole presentation, mirroring `render`. -/
def renderPieces (fin : Bool) : List (Rec × RecStyle) → List Bytes
  | [] => []
  | [(r, s)] => pieces (lineEnd s.crlf) fin (recLines r s)
  | (r, s) :: p :: rest =>
    pieces (lineEnd s.crlf) true (recLines r s) ++ renderPieces fin (p :: rest)

theorem render_eq_pieces (fin : Bool) (recs : List (Rec × RecStyle)) :
    render fin recs = (renderPieces fin recs).flatten := by
  fun_induction renderPieces fin recs with
  | case1 => rfl
  | case2 r s => simp only [render, renderRec, renderLines_eq_pieces]
  | case3 r s p rest ih =>
    simp only [render, renderRec, renderLines_eq_pieces, List.flatten_append, ih]

theorem chunks_eq (w : Nat) (l : Bytes) (hw : 0 < w) (hl : l ≠ []) :
    chunks w l = l.take w :: chunks w (l.drop w) := by
  rw [chunks, dif_neg (not_or.mpr ⟨Nat.ne_of_gt hw, hl⟩)]

theorem chunks_nil (w : Nat) : chunks w [] = [] := by
  rw [chunks, dif_pos (Or.inr rfl)]

theorem chunks_spec (w : Nat) (hw : 0 < w) (l : Bytes) :
    (chunks w l).flatten = l ∧ (∀ c ∈ chunks w l, c ≠ [] ∧ ∀ b ∈ c, b ∈ l) ∧
      (l ≠ [] → chunks w l ≠ []) := by
  fun_induction chunks w l with
  | case1 l h =>
    have hl : l = [] := h.resolve_left (Nat.ne_of_gt hw)
    subst hl
    exact ⟨rfl, nofun, fun h => absurd rfl h⟩
  | case2 l h ih =>
    have hl : l ≠ [] := fun e => h (Or.inr e)
    obtain ⟨h1, h2, _⟩ := ih
    refine ⟨by rw [List.flatten_cons, h1, List.take_append_drop], ?_, fun _ => List.cons_ne_nil _ _⟩
    intro c hc
    rcases List.mem_cons.mp hc with rfl | hc
    · exact ⟨fun e => hl (List.take_eq_nil_iff.mp e |>.resolve_left (Nat.ne_of_gt hw)),
        fun b hb => List.mem_of_mem_take hb⟩
    · exact ⟨(h2 c hc).1, fun b hb => List.mem_of_mem_drop ((h2 c hc).2 b hb)⟩

theorem applyCase_cons (lower : List Bool) (b : Nat) (bs : Bytes) :
    applyCase lower (b :: bs) =
      (if lower.headD false then toLower b else toUpper b) :: applyCase lower.tail bs := by
  cases lower <;> rfl

theorem applyCase_letters (lower : List Bool) (seq : Bytes) (h : ∀ b ∈ seq, isLetter b = true) :
    (∀ b ∈ applyCase lower seq, isLetter b = true) ∧
      convert (applyCase lower seq) = seq.map (fun b => cnv (toUpper b)) ∧
      (seq ≠ [] → applyCase lower seq ≠ []) := by
  induction seq generalizing lower with
  | nil => cases lower <;> exact ⟨nofun, rfl, fun h => absurd rfl h⟩
  | cons b bs ih =>
    obtain ⟨i1, i2, _⟩ := ih lower.tail (fun x hx => h x (List.mem_cons_of_mem _ hx))
    have hb := h b (List.mem_cons_self ..)
    have c1 := (letter_case hb (lower.headD false)).1
    have c2 : cnv (if lower.headD false then toLower b else toUpper b) = cnv (toUpper b) :=
      (cnv_case hb (lower.headD false)).trans (cnv_case hb false).symm
    rw [applyCase_cons]
    refine ⟨?_, ?_, fun _ => List.cons_ne_nil _ _⟩
    · intro x hx
      rcases List.mem_cons.mp hx with rfl | hx
      · exact c1
      · exact i1 x hx
    · rw [convert_cons, c1, Bool.true_or, if_pos rfl, c2, i2, List.map_cons]

/-- What `parse_render` asks of a record: the header has no `\n`, its id (leading `>`s and the
ASCII white space at both ends removed) is not empty, and there is at least one base, all letters. -/
def ValidRec (r : Rec) : Prop :=
  10 ∉ r.header ∧ headerId (62 :: r.header) ≠ [] ∧ r.seq ≠ [] ∧ ∀ b ∈ r.seq, isLetter b = true

instance (r : Rec) : Decidable (ValidRec r) := by unfold ValidRec; infer_instance

def ValidPres (recs : List (Rec × RecStyle)) : Prop := ∀ p ∈ recs, ValidRec p.1 ∧ 1 ≤ p.2.width

instance (recs : List (Rec × RecStyle)) : Decidable (ValidPres recs) := by
  unfold ValidPres; infer_instance

/-- the chunk lines of a record under a style -/
def chunkLines (r : Rec) (s : RecStyle) : List Bytes := chunks s.width (applyCase s.lower r.seq)

theorem chunkLines_spec {r : Rec} {s : RecStyle} (hr : ValidRec r) (hs : 1 ≤ s.width) :
    chunkLines r s ≠ [] ∧ (∀ c ∈ chunkLines r s, c ≠ [] ∧ ∀ b ∈ c, isLetter b = true) ∧
      convert (chunkLines r s).flatten = r.seq.map (fun b => cnv (toUpper b)) := by
  obtain ⟨a1, a2, a3⟩ := applyCase_letters s.lower r.seq hr.2.2.2
  obtain ⟨c1, c2, c3⟩ := chunks_spec s.width hs (applyCase s.lower r.seq)
  exact ⟨c3 (a3 hr.2.2.1), fun c hc => ⟨(c2 c hc).1, fun b hb => a1 b ((c2 c hc).2 b hb)⟩,
    by rw [chunkLines, c1, a2]⟩

theorem convert_lineEnd (crlf : Bool) : convert (lineEnd crlf) = [] := by
  cases crlf <;> decide

theorem convert_pieces (crlf close : Bool) (cs : List Bytes) :
    convert (pieces (lineEnd crlf) close cs).flatten = convert cs.flatten := by
  fun_induction pieces (lineEnd crlf) close cs with
  | case1 => rfl
  | case2 c => cases close <;> simp [convert_append, convert_lineEnd]
  | case3 c d cs ih =>
    simp only [List.flatten_cons, convert_append, convert_lineEnd, List.append_nil, ih]

theorem isHeaderLine_append {c : Bytes} (t : Bytes) (h : c ≠ []) :
    isHeaderLine (c ++ t) = isHeaderLine c := by
  cases c with
  | nil => exact absurd rfl h
  | cons x xs => rfl

theorem pieces_not_header (nl : Bytes) (close : Bool) (cs : List Bytes)
    (h : ∀ c ∈ cs, c ≠ [] ∧ isHeaderLine c = false) :
    ∀ p ∈ pieces nl close cs, isHeaderLine p = false := by
  fun_induction pieces nl close cs with
  | case1 => nofun
  | case2 c =>
    intro p hp
    obtain ⟨h1, h2⟩ := h c (List.mem_singleton_self c)
    rw [List.mem_singleton.mp hp]
    cases close
    · exact h2
    · exact (isHeaderLine_append nl h1).trans h2
  | case3 c d cs ih =>
    intro p hp
    obtain ⟨h1, h2⟩ := h c (List.mem_cons_self ..)
    rcases List.mem_cons.mp hp with rfl | hp
    · exact (isHeaderLine_append nl h1).trans h2
    · exact ih (fun c hc => h c (List.mem_cons_of_mem _ hc)) p hp

theorem allRecords_skip (h acc : Bytes) (ps L : List Bytes)
    (hp : ∀ p ∈ ps, isHeaderLine p = false) :
    allRecords h acc (ps ++ L) = allRecords h (acc ++ ps.flatten) L := by
  induction ps generalizing acc with
  | nil => simp
  | cons p ps ih =>
    have := hp p (by simp)
    simp only [List.cons_append, allRecords, this, Bool.false_eq_true, if_false, List.flatten_cons]
    rw [ih _ (fun q hq => hp q (by simp [hq])), List.append_assoc]

/-- header line of a record in a presentation -/
def headerPiece (r : Rec) (s : RecStyle) : Bytes := 62 :: r.header ++ lineEnd s.crlf

/-- raw contig of a record in a presentation -/
def rawOf (r : Rec) (s : RecStyle) (close : Bool) : Bytes :=
  (pieces (lineEnd s.crlf) close (chunkLines r s)).flatten

theorem recLines_ok {r : Rec} {s : RecStyle} (hr : ValidRec r) (hs : 1 ≤ s.width) :
    ∀ l ∈ recLines r s, 10 ∉ l ∧ l ≠ [] := by
  intro l hl
  rcases List.mem_cons.mp hl with rfl | hl
  · exact ⟨fun h => (List.mem_cons.mp h).elim nofun hr.1, List.cons_ne_nil _ _⟩
  · obtain ⟨h1, h2⟩ := (chunkLines_spec hr hs).2.1 l hl
    exact ⟨fun h => absurd (h2 10 h) (by decide), h1⟩

theorem lines_render (fin : Bool) (recs : List (Rec × RecStyle)) (h : ValidPres recs) :
    lines (render fin recs) = renderPieces fin recs := by
  fun_induction renderPieces fin recs with
  | case1 => rfl
  | case2 r s =>
    have hp := h (r, s) (List.mem_singleton_self _)
    simpa [render, renderRec, renderLines_eq_pieces, lines] using
      lines_pieces s.crlf fin (recLines r s) [] (recLines_ok hp.1 hp.2) (fun _ => rfl)
  | case3 r s p rest ih =>
    have hp := h (r, s) (List.mem_cons_self ..)
    simp only [render, renderRec, renderLines_eq_pieces]
    rw [lines_pieces s.crlf true _ _ (recLines_ok hp.1 hp.2) nofun,
      ih (fun x hx => h x (List.mem_cons_of_mem _ hx))]

/-- A presentation is laid out record by record: the header line, the chunk lines, the rest; only
the last record may lack its final line end. -/
theorem renderPieces_cons (fin : Bool) {r : Rec} {s : RecStyle} (rest : List (Rec × RecStyle))
    (hr : ValidRec r) (hs : 1 ≤ s.width) :
    ∃ c, renderPieces fin ((r, s) :: rest) =
      headerPiece r s :: (pieces (lineEnd s.crlf) c (chunkLines r s) ++ renderPieces fin rest) := by
  have hp : ∀ c, pieces (lineEnd s.crlf) c (recLines r s) =
      headerPiece r s :: pieces (lineEnd s.crlf) c (chunkLines r s) :=
    fun c => pieces_cons_ne _ c _ (chunkLines_spec hr hs).1
  cases rest with
  | nil => exact ⟨fin, (hp fin).trans (by rw [renderPieces, List.append_nil])⟩
  | cons p rest => exact ⟨true, congrArg (· ++ renderPieces fin (p :: rest)) (hp true)⟩

theorem allRecords_chunkLines {r : Rec} {s : RecStyle} (hr : ValidRec r) (hs : 1 ≤ s.width)
    (h : Bytes) (c : Bool) (L : List Bytes) :
    allRecords h [] (pieces (lineEnd s.crlf) c (chunkLines r s) ++ L) = allRecords h (rawOf r s c) L := by
  rw [allRecords_skip, List.nil_append, rawOf]
  apply pieces_not_header
  intro c hc
  obtain ⟨h1, h2⟩ := (chunkLines_spec hr hs).2.1 c hc
  refine ⟨h1, ?_⟩
  cases c with
  | nil => rfl
  | cons x xs =>
    have hx := h2 x (List.mem_cons_self ..)
    simp only [isHeaderLine, List.head?_cons, Option.some.injEq, decide_eq_false_iff_not]
    rintro rfl
    exact absurd hx (by decide)

theorem trimEnd_lineEnd (x : Bytes) (crlf : Bool) : trimEnd (x ++ lineEnd crlf) = trimEnd x := by
  cases crlf <;> simp [trimEnd, lineEnd, isWs]

theorem headerId_lineEnd (h : Bytes) (crlf : Bool) :
    headerId (62 :: h ++ lineEnd crlf) = headerId (62 :: h) := by
  have hd : (h ++ lineEnd crlf).dropWhile (· = 62) = h.dropWhile (· = 62) ++ lineEnd crlf := by
    rw [List.dropWhile_append]
    split
    · rename_i he
      rw [List.isEmpty_iff.mp he]
      cases crlf <;> rfl
    · rfl
  show trim ((h ++ lineEnd crlf).dropWhile (· = 62)) = trim (h.dropWhile (· = 62))
  rw [hd, trim, trimEnd_lineEnd, trim]

theorem rendered_good_conv {r : Rec} {s : RecStyle} (c : Bool) (hr : ValidRec r) (hs : 1 ≤ s.width) :
    good (headerPiece r s, rawOf r s c) = true ∧ conv (headerPiece r s, rawOf r s c) = canonRec r := by
  have hconv : convert (rawOf r s c) = r.seq.map (fun b => cnv (toUpper b)) := by
    rw [rawOf, convert_pieces]; exact (chunkLines_spec hr hs).2.2
  have hid : headerId (headerPiece r s) = headerId (62 :: r.header) := headerId_lineEnd _ _
  exact ⟨by simp only [good, decide_eq_true_eq, hid]; exact hr.2.1,
    by simp only [conv, canonRec, hid, hconv]⟩

theorem takeWhile_all {α : Type} (p : α → Bool) (l : List α) (h : ∀ x ∈ l, p x = true) :
    l.takeWhile p = l := by
  simpa using List.takeWhile_append_of_pos (l₂ := []) h

theorem dropWhile_nil_all {α : Type} (p : α → Bool) (l : List α) (h : l.dropWhile p = []) :
    ∀ x ∈ l, p x = true := by
  have hl := List.takeWhile_append_dropWhile (p := p) (l := l)
  rw [h, List.append_nil] at hl
  rw [← hl]
  exact List.all_eq_true.mp List.all_takeWhile

theorem isBlankLine_all {l : Bytes} (h : isBlankLine l = true) : ∀ b ∈ l, isWs b = true := by
  have h1 : ∀ b ∈ trimEnd l, isWs b = true := dropWhile_nil_all _ _ (of_decide_eq_true h)
  -- `l` reversed is a run of white space followed by `trimEnd l` reversed
  intro b hb
  rw [← List.mem_reverse, ← List.takeWhile_append_dropWhile (p := isWs) (l := l.reverse),
    List.mem_append] at hb
  rcases hb with hb | hb
  · exact List.all_eq_true.mp List.all_takeWhile b hb
  · exact h1 b (List.mem_reverse.mpr hb)

/-- A presentation starts with a header line, which is not blank, and from there the reader loop
returns every record. -/
theorem readRecords_rendered (fin : Bool) (recs : List (Rec × RecStyle)) (hv : ValidPres recs)
    (hne : recs ≠ []) :
    ∃ h ls, renderPieces fin recs = h :: ls ∧ isHeaderLine h = true ∧ ¬ isBlankLine h = true ∧
      readRecords (allRecords h [] ls) = some (canon (recs.map (·.1))) := by
  induction recs with
  | nil => exact absurd rfl hne
  | cons p rest ih =>
    obtain ⟨r, s⟩ := p
    have hp := hv (r, s) (List.mem_cons_self ..)
    obtain ⟨c, hc⟩ := renderPieces_cons fin rest hp.1 hp.2
    obtain ⟨hg, hcv⟩ := rendered_good_conv c hp.1 hp.2
    refine ⟨_, _, hc, rfl,
      fun hb => absurd (isBlankLine_all hb 62 (List.mem_cons_self ..)) (by decide), ?_⟩
    rw [allRecords_chunkLines hp.1 hp.2]
    cases rest with
    | nil => rw [renderPieces, allRecords, readRecords_cons, hg, if_pos rfl, hcv]; rfl
    | cons q rest =>
      obtain ⟨h, ls, hl, hh, _, hr⟩ :=
        ih (fun x hx => hv x (List.mem_cons_of_mem _ hx)) (List.cons_ne_nil q rest)
      rw [hl, allRecords, if_pos hh, readRecords_cons, hg, if_pos rfl, hr, hcv]
      rfl

theorem parseFile_render (fin : Bool) (recs : List (Rec × RecStyle)) (h : ValidPres recs) :
    parseFile (render fin recs) = some (canon (recs.map (·.1))) := by
  rw [parseFile, lines_render fin recs h, readAll_eq_records]
  cases recs with
  | nil => rfl
  | cons p rest =>
    obtain ⟨l, ls, hl, _, hb, hr⟩ := readRecords_rendered fin (p :: rest) h (List.cons_ne_nil p rest)
    rw [hl, List.dropWhile_cons_of_neg hb]
    exact hr

/-- the lines of a text after its leading blank lines. -/
def specLines (t : Bytes) : List Bytes := (lines t).dropWhile isBlankLine

/-- The records of a text as FASTA means them: leading blank lines do not count, a record is a
header line and every line up to the next header line: `(header line, raw lines concatenated)`. -/
def specRecords (t : Bytes) : List (Bytes × Bytes) := records (specLines t)

theorem parseFile_eq (t : Bytes) : parseFile t = readRecords (specRecords t) :=
  readAll_eq_records _

/-- the record has at least one base: a byte the reader keeps (a letter — or one of the 11 bytes
of `isHighPunct`, which the code does not drop). -/
def hasBase (p : Bytes × Bytes) : Bool := convert p.2 ≠ []

/-- FASTA text: after leading blank lines the first line is a header line, and every header has
a non-empty id. -/
def wellFormedText (t : Bytes) : Bool :=
  (match specLines t with
    | [] => true
    | h :: _ => isHeaderLine h) && (specRecords t).all (fun p => headerId p.1 ≠ [])

/-- "No record that has at least one base is left out": reading succeeds and what `create` pushes
is, in order, every record of the text that has a base. -/
def NoRecordDropped (t : Bytes) : Prop :=
  (createInput t).map (·.map (·.1)) = some (((specRecords t).filter hasBase).map (fun p => headerId p.1))

instance (t : Bytes) : Decidable (NoRecordDropped t) := by unfold NoRecordDropped; infer_instance

theorem noRecordDropped_of_good (t : Bytes) (h : (specRecords t).all good = true) :
    NoRecordDropped t := by
  simp only [NoRecordDropped, createInput, parseFile_eq, readRecords, h, if_true, Option.map_some,
    List.filter_map, List.map_map, Option.some.injEq]
  rfl

theorem stripPrefixRep_step (pre l : Bytes) (h : pre ≠ []) :
    stripPrefixRep pre (pre ++ l) = stripPrefixRep pre l := by
  have hp : pre.isPrefixOf (pre ++ l) = true :=
    List.isPrefixOf_iff_prefix.mpr (List.prefix_append _ _)
  rw [stripPrefixRep, dif_pos ⟨h, hp⟩, List.drop_left]

theorem stripPrefixRep_stop (pre l : Bytes) (h : pre.isPrefixOf l = false) :
    stripPrefixRep pre l = l := by
  rw [stripPrefixRep, dif_neg (fun hp => by rw [h] at hp; cases hp.2)]

theorem trimEndMatches_suffix (suf l : Bytes) (h : suf ≠ []) :
    trimEndMatches suf (l ++ suf) = trimEndMatches suf l := by
  simp only [trimEndMatches, List.reverse_append]
  rw [stripPrefixRep_step _ _ (by simpa using h)]

theorem trimEndMatches_stop (suf l : Bytes) (h : suf.reverse.isPrefixOf l.reverse = false) :
    trimEndMatches suf l = l := by
  rw [trimEndMatches, stripPrefixRep_stop _ _ h, List.reverse_reverse]

theorem fileStem_ext (n ext : Bytes) (hn : n ≠ []) (hext : 46 ∉ ext) :
    fileStem (n ++ 46 :: ext) = n := by
  have hr : (n ++ 46 :: ext).reverse = ext.reverse ++ 46 :: n.reverse := by
    rw [List.reverse_append, List.reverse_cons, List.append_assoc, List.singleton_append]
  have htw : (ext.reverse ++ 46 :: n.reverse).takeWhile (· ≠ 46) = ext.reverse := by
    rw [List.takeWhile_append_of_pos, List.takeWhile_cons_of_neg (by simp), List.append_nil]
    intro x hx
    exact decide_eq_true (fun e => hext (e ▸ List.mem_reverse.mp hx))
  have hlen : ¬ ext.reverse.length = (ext.reverse ++ 46 :: n.reverse).length := by
    rw [List.length_append, List.length_cons]; omega
  simp only [fileStem, hr, htw, hlen, if_false, List.drop_length_add_append, List.drop_succ_cons,
    List.drop_zero, List.reverse_reverse, hn]

theorem fileName_append (p s : Bytes) (hs : 47 ∉ s) : fileName (p ++ s) = fileName p ++ s := by
  have hall : ∀ x ∈ s.reverse, (decide (x ≠ 47)) = true :=
    fun x hx => decide_eq_true (fun e => hs (e ▸ List.mem_reverse.mp hx))
  simp only [fileName, List.reverse_append]
  rw [List.takeWhile_append_of_pos hall, List.reverse_append, List.reverse_reverse]

/-- A file name of at least four bytes has a sample name (it is not empty, `.` or `..`). -/
theorem sampleNameOfPath_of_long {p : Bytes} (h : 4 ≤ (fileName p).length) :
    sampleNameOfPath p = some (sampleNameOfFile (fileName p)) := by
  have : ¬ (fileName p = [] ∨ fileName p = [46] ∨ fileName p = [46, 46]) := by
    rintro (e | e | e) <;> rw [e] at h <;> exact absurd h (by decide)
  simp only [sampleNameOfPath, this, if_false]

/-- The stem of `name.gz` is `name`, so the sample name of `name.gz` is `name` without its
trailing `.fa`s, then `.fasta`s. -/
theorem sampleNameOfFile_gz {n : Bytes} (hn : n ≠ []) :
    sampleNameOfFile (n ++ dotGz) = trimEndMatches dotFasta (trimEndMatches dotFa n) := by
  rw [sampleNameOfFile, show n ++ dotGz = n ++ 46 :: [103, 122] from rfl,
    fileStem_ext n _ hn (by decide)]

/-- the `(sample, contig, codes)` stream of records (after main.rs's skip of empty sequences). -/
def streamOf (fileSample : Bytes) (recs : List Rec) : List (Bytes × Bytes × Bytes) :=
  ((canon recs).filter (fun p => p.2 ≠ [])).map (fun p => (sampleOf fileSample p.1, p.1, p.2))

theorem fileStream_render (fileSample : Bytes) (fin : Bool) (pres : List (Rec × RecStyle))
    (h : ValidPres pres) :
    fileStream fileSample (render fin pres) = some (streamOf fileSample (pres.map (·.1))) := by
  simp only [fileStream, createInput, parseFile_render fin pres h, streamOf, Option.map_some]

theorem streamOf_append (s : Bytes) (a b : List Rec) :
    streamOf s (a ++ b) = streamOf s a ++ streamOf s b := by
  simp only [streamOf, canon, List.map_append, List.filter_append]

/-- the header (as the reader sees it) carries its own sample: ≥ 3 `#`-fields. -/
def IsPansn (r : Rec) : Prop := (parseSampleFromHeader (canonRec r).1).1 ≠ unknown

instance (r : Rec) : Decidable (IsPansn r) := by unfold IsPansn; infer_instance

theorem streamOf_pansn (s s' : Bytes) (recs : List Rec) (h : ∀ r ∈ recs, IsPansn r) :
    streamOf s recs = streamOf s' recs := by
  apply List.map_congr_left
  intro p hp
  obtain ⟨r, hr, rfl⟩ := List.mem_map.mp (List.mem_filter.mp hp).1
  have := h r hr
  simp only [sampleOf, IsPansn] at this ⊢
  rw [if_pos this, if_pos this]

/-- The 16 codes `< 16` are written as upper-case letters that read back as the code. -/
theorem cnv_lt_16 : ∀ c, c < 16 →
    isLetter (cnv c) = true ∧ toUpper (cnv c) = cnv c ∧ cnv (cnv c) = c := by
  decide +kernel

/-- what a code reads back as after a write/read round: itself if `< 16`, else `N` = 4. -/
def reread (c : Nat) : Nat := if c < 16 then c else 4

theorem outLetter_reread (c : Nat) :
    isLetter (outLetter c) = true ∧ toUpper (outLetter c) = outLetter c ∧
      cnv (toUpper (outLetter c)) = reread c := by
  simp only [outLetter, reread]
  by_cases h : c < 16
  · have := cnv_lt_16 c h
    simp only [h, if_true, this.1, this.2.1, this.2.2, and_self]
  · simp only [h, if_false]; decide

/-- the style of `GenomeWriter`: 80 columns, LF, upper case. -/
def writerStyle : RecStyle := ⟨lineWidth, false, []⟩

theorem applyCase_nil_upper (l : Bytes) (h : ∀ b ∈ l, toUpper b = b) : applyCase [] l = l := by
  induction l with
  | nil => rfl
  | cons b bs ih =>
    simp only [applyCase, h b (by simp), ih (fun x hx => h x (by simp [hx]))]

theorem renderLines_closed (nl : Bytes) (ls : List Bytes) :
    renderLines nl true ls = (ls.map (· ++ nl)).flatten := by
  induction ls with
  | nil => rfl
  | cons c cs ih =>
    cases cs with
    | nil => simp [renderLines]
    | cons d cs => simp only [renderLines, ih]; simp

theorem render_closed (l : List (Rec × RecStyle)) :
    render true l = (l.map (fun p => renderRec p.1 p.2 true)).flatten := by
  induction l with
  | nil => rfl
  | cons p rest ih =>
    obtain ⟨r, s⟩ := p
    cases rest with
    | nil => simp [render]
    | cons q rest => simp only [render, ih]; simp

/-- `write_sample_fasta`'s output is the presentation of the read-back letters in the writer's style. -/
theorem writeFasta_eq_render (contigs : List (Bytes × Bytes)) :
    writeFasta contigs =
      render true (contigs.map (fun c => (⟨c.1, c.2.map outLetter⟩, writerStyle))) := by
  rw [render_closed]
  simp only [writeFasta, List.map_map]
  congr 1
  apply List.map_congr_left
  intro c _
  simp only [Function.comp, renderRec, recLines, writerStyle, lineEnd, Bool.false_eq_true, if_false,
    renderLines_closed, saveContig, List.map_cons, List.flatten_cons]
  rw [applyCase_nil_upper _ (by
    intro b hb
    simp only [List.mem_map] at hb
    obtain ⟨c, _, rfl⟩ := hb
    exact (outLetter_reread c).2.1)]
  simp

/-- a contig as an archive returns it, fit for writing: a name that is its own id (no `\n`, no
leading `>`, no white space at the ends, not empty) and at least one code. -/
def ValidContig (c : Bytes × Bytes) : Prop :=
  10 ∉ c.1 ∧ headerId (62 :: c.1) = c.1 ∧ c.1 ≠ [] ∧ c.2 ≠ []

instance (c : Bytes × Bytes) : Decidable (ValidContig c) := by unfold ValidContig; infer_instance

theorem validPres_of_contigs (contigs : List (Bytes × Bytes)) (h : ∀ c ∈ contigs, ValidContig c) :
    ValidPres (contigs.map (fun c => (⟨c.1, c.2.map outLetter⟩, writerStyle))) := by
  intro p hp
  simp only [List.mem_map] at hp
  obtain ⟨c, hc, rfl⟩ := hp
  obtain ⟨h1, h2, h3, h4⟩ := h c hc
  refine ⟨⟨h1, by simpa [h2] using h3, by simpa using h4, ?_⟩, by simp [writerStyle, lineWidth]⟩
  intro b hb
  simp only [List.mem_map] at hb
  obtain ⟨x, _, rfl⟩ := hb
  exact (outLetter_reread x).1

theorem canon_of_contigs (contigs : List (Bytes × Bytes)) (h : ∀ c ∈ contigs, ValidContig c) :
    canon ((contigs.map (fun c => ((⟨c.1, c.2.map outLetter⟩ : Rec), writerStyle))).map (·.1)) =
      contigs.map (fun c => (c.1, c.2.map reread)) := by
  simp only [canon, List.map_map]
  apply List.map_congr_left
  intro c hc
  simp only [Function.comp, canonRec, (h c hc).2.1, List.map_map, Prod.mk.injEq, true_and]
  apply List.map_congr_left
  intro x _
  exact (outLetter_reread x).2.2

end Ragc.Fasta
