/-!
General facts about `List` that several modules share; nothing here mentions the model. `zipWith`, `mapM` in `Option`,
`find?` / `idxOf` on lists without duplicates and folds that only push (`foldl_push`) serve the writer / decoder lemmas and
keep their namespaces; `Codec.prefix_free_of_roundtrip` gives the prefix-code corollaries of C03 and C13; `ListFacts.sum_map_set`
and `sum_map_le` are the counting facts under the potentials of C05 and C06.
-/
namespace Ragc.WriterLemmas

theorem zipWith_get {α β γ : Type} (f : α → β → γ) (l : List α) (l' : List β) (i : Nat) (a : α) (b : β)
    (h1 : l[i]? = some a) (h2 : l'[i]? = some b) : (List.zipWith f l l')[i]? = some (f a b) := by
  rw [List.getElem?_zipWith, h1, h2]

theorem zipWith_get_inv {α β γ : Type} (f : α → β → γ) (l : List α) (l' : List β) (i : Nat) (y : γ)
    (h : (List.zipWith f l l')[i]? = some y) : ∃ a b, l[i]? = some a ∧ l'[i]? = some b ∧ y = f a b := by
  obtain ⟨a, b, h1, h2, h3⟩ := List.getElem?_zipWith_eq_some.mp h
  exact ⟨a, b, h1, h2, h3.symm⟩

theorem mem_zip_of_get {α β : Type} (l : List α) (l' : List β) (i : Nat) (a : α) (b : β)
    (h1 : l[i]? = some a) (h2 : l'[i]? = some b) : (a, b) ∈ List.zip l l' :=
  List.mem_iff_getElem?.mpr ⟨i, List.getElem?_zip_eq_some.mpr ⟨h1, h2⟩⟩

theorem zipWith_congr_mem {α β γ : Type} (f g : α → β → γ) : ∀ (l : List α) (l' : List β),
    (∀ x ∈ List.zip l l', f x.1 x.2 = g x.1 x.2) → List.zipWith f l l' = List.zipWith g l l' := by
  intro l
  induction l with
  | nil => intro l' _; rfl
  | cons a l ih =>
    intro l' h
    cases l' with
    | nil => rfl
    | cons b l' =>
      rw [List.zipWith_cons_cons, List.zipWith_cons_cons, h (a, b) List.mem_cons_self,
        ih l' fun x hx => h x (List.mem_cons_of_mem _ hx)]

theorem zipWith_fst {α β γ : Type} (f : α → γ) : ∀ (l : List α) (l' : List β), l'.length = l.length →
    List.zipWith (fun a _ => f a) l l' = l.map f := by
  intro l
  induction l with
  | nil => intro l' _; rfl
  | cons a l ih =>
    intro l' h
    cases l' with
    | nil => cases h
    | cons b l' => rw [List.zipWith_cons_cons, List.map_cons, ih l' (Nat.succ.inj h)]

/-- mapping over a `zipWith` whose image depends on the left element only -/
theorem map_zipWith_left {α β γ δ : Type} (f : α → β → γ) (F : γ → δ) (G : α → δ) (l : List α)
    (l' : List β) (hlen : l'.length = l.length) (h : ∀ x ∈ List.zip l l', F (f x.1 x.2) = G x.1) :
    (List.zipWith f l l').map F = l.map G := by
  rw [List.map_zipWith, zipWith_congr_mem _ (fun a _ => G a) l l' h, zipWith_fst G l l' hlen]

/-- `mapM` in `Option` answers only if `f` answers on every element, and then pointwise. -/
theorem mapM_option_spec {α β : Type} (f : α → Option β) :
    ∀ (l : List α) (r : List β), l.mapM f = some r →
      r.length = l.length ∧ ∀ j (hj : j < l.length) (hr : j < r.length), f l[j] = some r[j] := by
  intro l
  induction l with
  | nil =>
    intro r h
    cases h
    exact ⟨rfl, fun j hj => absurd hj (Nat.not_lt_zero j)⟩
  | cons a l ih =>
    intro r h
    rw [List.mapM_cons] at h
    obtain ⟨b, hfa, h⟩ := Option.bind_eq_some_iff.mp h
    obtain ⟨bs, hl, h⟩ := Option.bind_eq_some_iff.mp h
    cases h
    obtain ⟨h1, h2⟩ := ih bs hl
    refine ⟨congrArg (· + 1) h1, fun j hj hr => ?_⟩
    cases j with
    | zero => exact hfa
    | succ j => exact h2 j (Nat.lt_of_succ_lt_succ hj) (Nat.lt_of_succ_lt_succ hr)

/-- `mapM` in `Option` answers as soon as `f` answers on every element. -/
theorem mapM_isSome {α β : Type} (f : α → Option β) :
    ∀ l : List α, (∀ x ∈ l, ∃ y, f x = some y) → ∃ r, l.mapM f = some r := by
  intro l
  induction l with
  | nil => intro _; exact ⟨[], rfl⟩
  | cons a l ih =>
    intro h
    obtain ⟨y, hy⟩ := h a List.mem_cons_self
    obtain ⟨r, hr⟩ := ih (fun x hx => h x (List.mem_cons_of_mem _ hx))
    exact ⟨y :: r, by rw [List.mapM_cons, hy, hr]; rfl⟩

/-- A fold whose every step leaves the first component alone and pushes the next element of `r`. -/
theorem foldl_push {σ α β : Type} (step : σ × Array β → α → σ × Array β) (s : σ) :
    ∀ (l : List α) (r : List β) (acc : Array β), l.length = r.length →
      (∀ i (hl : i < l.length) (hr : i < r.length) (acc : Array β),
        step (s, acc) l[i] = (s, acc.push r[i])) →
      l.foldl step (s, acc) = (s, acc ++ r.toArray) := by
  intro l
  induction l with
  | nil =>
    intro r acc hlen _
    cases r with
    | nil => simp
    | cons _ _ => cases hlen
  | cons x l ih =>
    intro r acc hlen h
    cases r with
    | nil => cases hlen
    | cons y r =>
      have h0 : step (s, acc) x = (s, acc.push y) := h 0 (Nat.zero_lt_succ _) (Nat.zero_lt_succ _) acc
      rw [List.foldl_cons, h0, ih r _ (Nat.succ.inj hlen) fun i hl hr acc =>
        h (i + 1) (Nat.succ_lt_succ hl) (Nat.succ_lt_succ hr) acc]
      simp

/-- In a list without duplicates, `idxOf` inverts indexing. -/
theorem idxOf_beq {α : Type} [BEq α] [LawfulBEq α] (l : List α) (hnd : l.Nodup) (x : α) (hx : x ∈ l)
    (i : Nat) (hi : i < l.length) : (l.idxOf x == i) = (x == l[i]) := by
  rw [Bool.eq_iff_iff, beq_iff_eq, beq_iff_eq]
  constructor
  · intro h
    subst h
    exact (List.getElem_idxOf (List.idxOf_lt_length_of_mem hx)).symm
  · intro h
    subst h
    exact List.Nodup.idxOf_getElem hnd i hi

/-- Looking an element up by a key that no two elements share finds that element. -/
theorem find?_key_getElem {α κ : Type} [BEq κ] [LawfulBEq κ] (key : α → κ) (l : List α)
    (hnd : (l.map key).Nodup) (i : Nat) (h : i < l.length) :
    l.find? (fun x => key x == key l[i]) = some l[i] := by
  refine List.find?_eq_some_iff_getElem.mpr ⟨beq_self_eq_true _, i, h, rfl, fun j hj => ?_⟩
  have hj' : j < (l.map key).length := by rw [List.length_map]; exact Nat.lt_trans hj h
  have hi' : i < (l.map key).length := by rw [List.length_map]; exact h
  have hne : (l.map key)[j] ≠ (l.map key)[i] := fun hc =>
    absurd ((List.getElem_inj hnd).mp hc) (Nat.ne_of_lt hj)
  rw [List.getElem_map, List.getElem_map] at hne
  rw [Bool.not_eq_true', beq_eq_false_iff_ne]
  exact hne

/-- An element of a `zipWith` comes from two elements at the same position. -/
theorem mem_zipWith {α β γ : Type} (f : α → β → γ) (l : List α) (l' : List β) (x : γ)
    (h : x ∈ List.zipWith f l l') : ∃ (i : Nat) (a : α) (b : β), l[i]? = some a ∧ l'[i]? = some b ∧ x = f a b := by
  obtain ⟨i, hi⟩ := List.mem_iff_getElem?.mp h
  exact ⟨i, zipWith_get_inv f l l' i x hi⟩

/-- A fold whose every step gives the state back. -/
theorem foldl_keep {α β : Type} (f : β → α → β) (b : β) : ∀ (l : List α), (∀ x ∈ l, ∀ b, f b x = b) →
    l.foldl f b = b := by
  intro l
  induction l with
  | nil => intro _; rfl
  | cons x xs ih =>
    intro h
    rw [List.foldl_cons, h x List.mem_cons_self, ih fun y hy => h y (List.mem_cons_of_mem _ hy)]

/-- In a list with distinct keys, a `flatMap` that is empty off one key is its value there. -/
theorem flatMap_unique {α β κ : Type} (key : α → κ) (f : α → List β) :
    ∀ (l : List α) (o : α), (l.map key).Nodup → o ∈ l → (∀ x ∈ l, key x ≠ key o → f x = []) →
      l.flatMap f = f o := by
  intro l o
  induction l with
  | nil => intro _ ho; cases ho
  | cons a l ih =>
    intro hnd ho hf
    rw [List.map_cons, List.nodup_cons] at hnd
    rw [List.flatMap_cons]
    rcases List.mem_cons.mp ho with rfl | ho
    · rw [List.flatMap_eq_nil_iff.mpr fun x hx => hf x (List.mem_cons_of_mem _ hx) fun hc =>
        hnd.1 (hc ▸ List.mem_map_of_mem hx), List.append_nil]
    · rw [hf a List.mem_cons_self fun hc => hnd.1 (hc ▸ List.mem_map_of_mem ho), List.nil_append]
      exact ih hnd.2 ho fun x hx => hf x (List.mem_cons_of_mem _ hx)

/-- `mapM` in `Except` over a mapped list on which the function answers pointwise. -/
theorem mapM_map_ok {α β γ ε : Type} (h : α → β) (f : β → Except ε γ) (g : α → γ) :
    ∀ (l : List α), (∀ x ∈ l, f (h x) = .ok (g x)) → (l.map h).mapM f = .ok (l.map g) := by
  intro l
  induction l with
  | nil => intro _; rfl
  | cons x xs ih =>
    intro H
    rw [List.map_cons, List.mapM_cons, H x List.mem_cons_self, ih fun y hy => H y (List.mem_cons_of_mem _ hy)]
    rfl

/-- `filterMapM` in `Except` with a function that answers pointwise. -/
theorem filterMapM_ok {α β ε : Type} (f : α → Except ε (Option β)) (g : α → Option β) :
    ∀ (l : List α), (∀ x ∈ l, f x = .ok (g x)) → l.filterMapM f = .ok (l.filterMap g) := by
  intro l
  induction l with
  | nil => intro _; rfl
  | cons x xs ih =>
    intro h
    rw [List.filterMapM_cons, h x List.mem_cons_self, ih fun y hy => h y (List.mem_cons_of_mem _ hy),
      List.filterMap_cons]
    cases g x <;> rfl

end Ragc.WriterLemmas

namespace Ragc.Roundtrip

theorem mapM_some_of_forall {α β : Type} (f : α → Option β) (g : α → β) :
    ∀ (l : List α), (∀ x ∈ l, f x = some (g x)) → l.mapM f = some (l.map g) := by
  intro l
  induction l with
  | nil => intro _; rfl
  | cons a l ih =>
    intro h
    rw [List.mapM_cons, h a List.mem_cons_self, ih fun x hx => h x (List.mem_cons_of_mem _ hx)]
    rfl

end Ragc.Roundtrip

namespace Ragc.Codec

/-- A decoder that undoes `enc` on the domain `P`, whatever follows, makes `enc` a prefix code
    there: a stream has at most one reading. -/
theorem prefix_free_of_roundtrip {α β : Type} {enc : α → List β} {dec : List β → Option (α × List β)}
    {P : α → Prop} (rt : ∀ a r, P a → dec (enc a ++ r) = some (a, r)) {a a' : α} {r r' : List β}
    (ha : P a) (ha' : P a') (h : enc a ++ r = enc a' ++ r') : a = a' ∧ r = r' := by
  have h1 := rt a r ha
  rw [h, rt a' r' ha'] at h1
  exact Prod.mk.inj (Option.some.inj h1.symm)

end Ragc.Codec

namespace Ragc.ListFacts

/-- replacing the element at position `i` moves a sum by the difference of the two summands -/
theorem sum_map_set {α} (f : α → Nat) {l : List α} {i : Nat} {a : α} (b : α) (h : l[i]? = some a) :
    ((l.set i b).map f).sum + f a = (l.map f).sum + f b := by
  induction l generalizing i with
  | nil => cases h
  | cons x xs ih =>
    cases i with
    | zero =>
      cases h
      rw [List.set_cons_zero, List.map_cons, List.map_cons, List.sum_cons, List.sum_cons, Nat.add_comm (f b),
        Nat.add_comm (f a)]
      exact Nat.add_right_comm ..
    | succ i =>
      rw [List.set_cons_succ, List.map_cons, List.map_cons, List.sum_cons, List.sum_cons, Nat.add_assoc, ih h,
        Nat.add_assoc]

theorem sum_map_le {α} {f : α → Nat} {k : Nat} (hf : ∀ a, f a ≤ k) (l : List α) :
    (l.map f).sum ≤ k * l.length := by
  induction l with
  | nil => exact Nat.le_refl 0
  | cons a l ih =>
    simp only [List.map_cons, List.sum_cons, List.length_cons, Nat.mul_succ]
    exact Nat.add_comm _ _ ▸ Nat.add_le_add ih (hf a)

end Ragc.ListFacts
