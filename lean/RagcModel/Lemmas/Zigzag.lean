import RagcModel.Model.Zigzag
/-! Predictive zigzag: round trip and the facts the in-group-id escape coding relies on (C03).

Values below the prediction `p = x + d + 1` get the odd code `2d + 1`, values `p + d` with `d < p`
the even code `2d`, all others (`2p ≤ x`) stand for themselves. Encoder and decoder are
characterised on these three forms, in which no subtraction occurs; everything else is a case
analysis over them. Bounds are stated with the modulus `U64` as it stands in the model. -/
namespace Ragc.Zigzag

theorem wsub_of_le {a b : Nat} (hb : b ≤ a) (ha : a < U64) : wsub a b = a - b := by
  unfold wsub
  rw [Nat.mod_eq_of_lt (Nat.lt_of_le_of_lt hb ha), Nat.sub_add_comm hb, Nat.add_mod_right,
    Nat.mod_eq_of_lt (Nat.lt_of_le_of_lt (Nat.sub_le a b) ha)]

theorem wadd_of_lt {a b : Nat} (h : a + b < U64) : wadd a b = a + b := Nat.mod_eq_of_lt h

theorem wdbl_of_lt {a : Nat} (h : 2 * a < U64) : wdbl a = 2 * a := Nat.mod_eq_of_lt h

theorem two_mul_lt_U64 {a : Nat} (h : a < 2 ^ 63) : 2 * a < U64 :=
  (Nat.mul_lt_mul_left Nat.zero_lt_two).mpr h

theorem zigzag_cases (x p : Nat) :
    (∃ d, p = x + d + 1) ∨ (∃ d, d < p ∧ x = p + d) ∨ 2 * p ≤ x := by
  by_cases h1 : x < p
  · exact .inl (Nat.exists_eq_add_of_lt h1)
  · by_cases h2 : x < 2 * p
    · obtain ⟨d, rfl⟩ := Nat.exists_eq_add_of_le (Nat.le_of_not_lt h1)
      exact .inr (.inl ⟨d, Nat.lt_of_add_lt_add_left (Nat.two_mul p ▸ h2), rfl⟩)
    · exact .inr (.inr (Nat.le_of_not_lt h2))

theorem zigzagEncode_below (x d : Nat) (h : 2 * (x + d + 1) < U64) :
    zigzagEncode x (x + d + 1) = 2 * d + 1 := by
  have ⟨h1, h2⟩ : x + d + 1 < U64 ∧ 2 * (d + 1) < U64 := by omega
  have hx : x < x + d + 1 := Nat.lt_succ_of_le (Nat.le_add_right x d)
  unfold zigzagEncode
  rw [if_pos hx, wsub_of_le (Nat.le_of_lt hx) h1, Nat.add_assoc, Nat.add_sub_cancel_left,
    wdbl_of_lt h2]
  exact wsub_of_le (a := 2 * (d + 1)) (Nat.le_add_left 1 (2 * d + 1)) h2

theorem zigzagEncode_near (p d : Nat) (hd : d < p) (hp : 2 * p < U64) :
    zigzagEncode (p + d) p = 2 * d := by
  have ⟨h1, h2⟩ : p + d < 2 * p ∧ 2 * d < U64 := by omega
  unfold zigzagEncode
  rw [if_neg (Nat.not_lt.mpr (Nat.le_add_right p d)), wdbl_of_lt hp, if_pos h1,
    wsub_of_le (Nat.le_add_right p d) (Nat.lt_trans h1 hp), Nat.add_sub_cancel_left, wdbl_of_lt h2]

theorem zigzagEncode_far (x p : Nat) (h : 2 * p ≤ x) (hp : 2 * p < U64) : zigzagEncode x p = x := by
  have h1 : p ≤ x := Nat.le_trans (Nat.le_mul_of_pos_left p Nat.zero_lt_two) h
  unfold zigzagEncode
  rw [if_neg (Nat.not_lt.mpr h1), wdbl_of_lt hp, if_neg (Nat.not_lt.mpr h)]

theorem zigzagDecode_odd (x d : Nat) (h : 2 * (x + d + 1) < U64) :
    zigzagDecode (2 * d + 1) (x + d + 1) = x := by
  have e : 2 * (x + d + 1) = 2 * x + 1 + (2 * d + 1) := by omega
  unfold zigzagDecode
  rw [wdbl_of_lt h, e, if_neg (Nat.not_le.mpr (Nat.lt_add_of_pos_left (Nat.succ_pos _))),
    if_pos (by rw [Nat.mul_add_mod]; decide), wsub_of_le (Nat.le_add_left _ _) (e ▸ h),
    Nat.add_sub_cancel]
  exact Nat.mul_add_div Nat.zero_lt_two x 1

theorem zigzagDecode_even (p d : Nat) (hd : d < p) (h : 2 * (p + d) < U64) :
    zigzagDecode (2 * d) p = p + d := by
  have ⟨h1, h2, h3⟩ : 2 * p < U64 ∧ 2 * d < 2 * p ∧ 2 * d + 2 * p = 2 * (p + d) := by omega
  unfold zigzagDecode
  rw [wdbl_of_lt h1, if_neg (Nat.not_le.mpr h2), if_neg (not_not_intro (Nat.mul_mod_right 2 d)),
    wadd_of_lt (h3 ▸ h), h3]
  exact Nat.mul_div_cancel_left (p + d) Nat.zero_lt_two

theorem zigzagDecode_far (v p : Nat) (h : 2 * p ≤ v) (hp : 2 * p < U64) : zigzagDecode v p = v := by
  unfold zigzagDecode
  rw [wdbl_of_lt hp, if_pos h]

theorem zigzagDecode_encode (x p : Nat) (hx : 2 * x < U64) (hp : 2 * p < U64) :
    zigzagDecode (zigzagEncode x p) p = x := by
  rcases zigzag_cases x p with ⟨d, rfl⟩ | ⟨d, hd, rfl⟩ | h
  · rw [zigzagEncode_below x d hp, zigzagDecode_odd x d hp]
  · rw [zigzagEncode_near p d hd hp, zigzagDecode_even p d hd hx]
  · rw [zigzagEncode_far x p h hp, zigzagDecode_far x p h hp]

/-- The decoder is also a right inverse where nothing wraps (`v + 2p < 2^64`): every code word is
    the code of the value it decodes to, so the coding is canonical (one code per value). -/
theorem zigzagEncode_decode (v p : Nat) (h : v + 2 * p < U64) :
    zigzagEncode (zigzagDecode v p) p = v := by
  have hp : 2 * p < U64 := Nat.lt_of_le_of_lt (Nat.le_add_left _ _) h
  by_cases h1 : 2 * p ≤ v
  · rw [zigzagDecode_far v p h1 hp, zigzagEncode_far v p h1 hp]
  · obtain ⟨d, rfl | rfl⟩ : ∃ d, v = 2 * d ∨ v = 2 * d + 1 :=
      ⟨v / 2, (Nat.mod_two_eq_zero_or_one v).imp (fun h => (h ▸ Nat.div_add_mod v 2).symm)
        (fun h => (h ▸ Nat.div_add_mod v 2).symm)⟩
    · have hd : d < p := Nat.lt_of_mul_lt_mul_left (Nat.not_le.mp h1)
      rw [zigzagDecode_even p d hd (by omega), zigzagEncode_near p d hd hp]
    · obtain ⟨x, rfl⟩ : ∃ x, p = x + d + 1 :=
        (Nat.exists_eq_add_of_lt (Nat.lt_of_mul_lt_mul_left (Nat.lt_of_succ_lt (Nat.not_le.mp h1)))).imp
          fun x hx => Nat.add_comm d x ▸ hx
      rw [zigzagDecode_odd x d hp, zigzagEncode_below x d hp]

theorem zigzagEncode_pos (x p : Nat) (hp : 2 * p < U64) (hne : x ≠ p) :
    1 ≤ zigzagEncode x p := by
  rcases zigzag_cases x p with ⟨d, rfl⟩ | ⟨d, hd, rfl⟩ | h
  · rw [zigzagEncode_below x d hp]; exact Nat.le_add_left 1 (2 * d)
  · rw [zigzagEncode_near p d hd hp]; omega
  · rw [zigzagEncode_far x p h hp]; omega

/-- The code stays below any bound that value and twice the prediction respect; a value that is
    not 0 leaves one more (room for the `+ 1` of the escape). -/
theorem zigzagEncode_lt (x p b : Nat) (hx : x < b) (hp : 2 * p ≤ b) (hb : b < U64) :
    zigzagEncode x p < b ∧ (0 < x → x + 1 < b → zigzagEncode x p + 1 < b) := by
  have hp' : 2 * p < U64 := Nat.lt_of_le_of_lt hp hb
  rcases zigzag_cases x p with ⟨d, rfl⟩ | ⟨d, hd, rfl⟩ | h
  · rw [zigzagEncode_below x d hp']; omega
  · rw [zigzagEncode_near p d hd hp']; omega
  · rw [zigzagEncode_far x p h hp']; exact ⟨hx, fun _ h1 => h1⟩

end Ragc.Zigzag
