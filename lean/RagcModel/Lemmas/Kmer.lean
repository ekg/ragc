import RagcModel.Model.Kmer
/-!
Helper definitions and lemmas for C20 (canonical k-mer arithmetic).

* the from-scratch specification: `packNat`, `packDir`, `rcWindow`, `canon`, `specWindows`;
* `toNat` of the `UInt64` operations the model uses (`toNat_shl`, `toNat_shr`, `mask_toNat`); an
  addition is described by `a.toNat + b.toNat = c.toNat`, which gives both `a + b = c` and that
  the sum did not wrap;
* what each of these operations does to a packed window: `packDir_grow_toNat` (write the next
  base), `packDir_shl2` (drop the first), `packDir_push_toNat` (`>>> 2`, write on top),
  `packDir_mask` (keep the first `k`), `packDir_extract` (read one);
* the invariant `Inv` carried through `insert` / `feed` / `enumLoop`.
-/
namespace Ragc.Kmer

/-! ## Specification -/

/-- All symbols are bases (`≤ 3`, the negation of the code's `b > 3` reset test). -/
def Valid (w : List UInt64) : Prop := ∀ b ∈ w, b ≤ 3

instance (w : List UInt64) : Decidable (Valid w) := by unfold Valid; infer_instance

/-- Base-4 value of a window, first base most significant: `Σ wᵢ · 4^(|w|-1-i)`. -/
def packNat : List UInt64 → Nat
  | [] => 0
  | b :: bs => b.toNat * 4 ^ bs.length + packNat bs

/-- The packed window, left-aligned in 64 bits: base `i` occupies bits `63-2i .. 62-2i`. -/
def packDir (w : List UInt64) : UInt64 := UInt64.ofNat (packNat w * 4 ^ (32 - w.length))

/-- Reverse complement of a window, from scratch. -/
def rcWindow (w : List UInt64) : List UInt64 := w.reverse.map (3 - ·)

/-- Canonical value of a window, from scratch. -/
def canon (w : List UInt64) : UInt64 := min (packDir w) (packDir (rcWindow w))

/-- The last `k` elements. -/
def lastK (k : Nat) (l : List UInt64) : List UInt64 := l.drop (l.length - k)

/-- From-scratch specification of `enumerate_kmers`: for every start position whose `k`-window
    exists and consists of bases only, the canonical value of that window, in order. -/
def specWindows (k : Nat) : List UInt64 → List UInt64
  | [] => []
  | b :: bs =>
    if k ≤ (b :: bs).length ∧ Valid ((b :: bs).take k) then
      canon ((b :: bs).take k) :: specWindows k bs
    else specWindows k bs

/-! ## Shift amounts, powers of four, the four bases -/

theorem shift_lt {j : Nat} (h : 1 ≤ j) : 64 - 2 * j < 64 :=
  Nat.sub_lt (by decide) (Nat.mul_pos (by decide) h)

theorem two_pow_shift (j : Nat) : 2 ^ (64 - 2 * j) = 4 ^ (32 - j) := by
  rw [show (4 : Nat) = 2 ^ 2 from rfl, ← Nat.pow_mul, Nat.mul_sub]

theorem four_pow_split {m : Nat} (h : m ≤ 32) : 4 ^ m * 4 ^ (32 - m) = 2 ^ 64 := by
  rw [← Nat.pow_add, Nat.add_sub_cancel' h]

theorem four_pow_sub_succ {n : Nat} (h : n < 32) : 4 ^ (32 - n) = 4 ^ (32 - (n + 1)) * 4 := by
  rw [← Nat.pow_succ, Nat.sub_add_eq, Nat.succ_eq_add_one,
    Nat.sub_add_cancel (Nat.sub_pos_of_lt h)]

theorem toNat_le3 {b : UInt64} (h : b ≤ 3) : b.toNat ≤ 3 := UInt64.le_iff_toNat_le.mp h

theorem cases_le3 {b : UInt64} (h : b ≤ 3) : b = 0 ∨ b = 1 ∨ b = 2 ∨ b = 3 := by
  have h4 := toNat_le3 h
  simp only [← UInt64.toNat_inj]
  show b.toNat = 0 ∨ b.toNat = 1 ∨ b.toNat = 2 ∨ b.toNat = 3
  omega

theorem rcBase_eq {b : UInt64} (h : b ≤ 3) : rcBase b = 3 - b := by
  rcases cases_le3 h with rfl | rfl | rfl | rfl <;> rfl

theorem three_sub_le3 {b : UInt64} (h : b ≤ 3) : 3 - b ≤ 3 := by
  rcases cases_le3 h with rfl | rfl | rfl | rfl <;> decide

theorem three_sub_three_sub {b : UInt64} (h : b ≤ 3) : 3 - (3 - b) = b := by
  rcases cases_le3 h with rfl | rfl | rfl | rfl <;> rfl

theorem rcBase_le3 {b : UInt64} (h : b ≤ 3) : rcBase b ≤ 3 := by
  rw [rcBase_eq h]; exact three_sub_le3 h

/-! ## `UInt64` operations as arithmetic on `toNat` -/

theorem toNat_shl (x : UInt64) {n : Nat} (h : n < 64) :
    (x <<< UInt64.ofNat n).toNat = x.toNat * 2 ^ n % 2 ^ 64 := by
  rw [UInt64.toNat_shiftLeft, UInt64.toNat_ofNat_of_lt' (Nat.lt_trans h (by decide)),
    Nat.mod_eq_of_lt h, Nat.shiftLeft_eq]

theorem toNat_shr (x : UInt64) {n : Nat} (h : n < 64) :
    (x >>> UInt64.ofNat n).toNat = x.toNat / 2 ^ n := by
  rw [UInt64.toNat_shiftRight, UInt64.toNat_ofNat_of_lt' (Nat.lt_trans h (by decide)),
    Nat.mod_eq_of_lt h, Nat.shiftRight_eq_div_pow]

/-- A sum of `toNat`s that is itself a `toNat` did not wrap. -/
theorem toNat_add_of_eq {a b c : UInt64} (h : a.toNat + b.toNat = c.toNat) :
    (a + b).toNat = a.toNat + b.toNat := by
  rw [UInt64.toNat_add, Nat.mod_eq_of_lt (h ▸ c.toNat_lt)]

theorem add_eq_of_toNat {a b c : UInt64} (h : a.toNat + b.toNat = c.toNat) : a + b = c :=
  UInt64.toNat_inj.mp ((toNat_add_of_eq h).trans h)

/-- A base placed at digit position `j` (counted from the top, from 1). -/
theorem base_shl_toNat {s : UInt64} (hs : s ≤ 3) {j : Nat} (h1 : 1 ≤ j) :
    (s <<< UInt64.ofNat (64 - 2 * j)).toNat = s.toNat * 4 ^ (32 - j) := by
  rw [toNat_shl s (shift_lt h1), two_pow_shift]
  apply Nat.mod_eq_of_lt
  calc s.toNat * 4 ^ (32 - j)
      ≤ 3 * 4 ^ 31 := Nat.mul_le_mul (toNat_le3 hs)
        (Nat.pow_le_pow_right (by decide) (Nat.sub_le_sub_left h1 32))
    _ < 2 ^ 64 := by decide

/-! ## `Valid` and `packNat` -/

theorem Valid.nil : Valid [] := fun _ hb => nomatch hb

theorem Valid.cons_iff {b : UInt64} {l : List UInt64} : Valid (b :: l) ↔ b ≤ 3 ∧ Valid l :=
  List.forall_mem_cons

theorem Valid.append_iff {a z : List UInt64} : Valid (a ++ z) ↔ Valid a ∧ Valid z :=
  List.forall_mem_append

theorem Valid.snoc {u : List UInt64} {s : UInt64} (hv : Valid u) (hs : s ≤ 3) :
    Valid (u ++ [s]) :=
  Valid.append_iff.mpr ⟨hv, Valid.cons_iff.mpr ⟨hs, Valid.nil⟩⟩

theorem Valid.drop {l : List UInt64} (h : Valid l) (n : Nat) : Valid (l.drop n) :=
  fun b hb => h b (List.mem_of_mem_drop hb)

theorem Valid.take {l : List UInt64} (h : Valid l) (n : Nat) : Valid (l.take n) :=
  fun b hb => h b (List.mem_of_mem_take hb)

theorem packNat_append (a z : List UInt64) :
    packNat (a ++ z) = packNat a * 4 ^ z.length + packNat z := by
  induction a with
  | nil => simp only [List.nil_append, packNat, Nat.zero_mul, Nat.zero_add]
  | cons b bs ih =>
    simp only [List.cons_append, packNat, ih, List.length_append, Nat.pow_add, Nat.add_mul,
      Nat.mul_assoc, Nat.add_assoc]

theorem packNat_snoc (a : List UInt64) (s : UInt64) :
    packNat (a ++ [s]) = packNat a * 4 + s.toNat := by
  simp only [packNat_append, packNat, List.length_cons, List.length_nil, Nat.pow_zero,
    Nat.mul_one, Nat.add_zero, Nat.pow_succ, Nat.one_mul]

theorem packNat_lt {w : List UInt64} (h : Valid w) : packNat w < 4 ^ w.length := by
  induction w with
  | nil => decide
  | cons b bs ih =>
    have hb := Nat.mul_le_mul_right (4 ^ bs.length) (toNat_le3 (Valid.cons_iff.mp h).1)
    have := ih (Valid.cons_iff.mp h).2
    simp only [packNat, List.length_cons, Nat.pow_succ]
    omega

theorem packNat_inj {v w : List UInt64} (hv : Valid v) (hw : Valid w)
    (hl : v.length = w.length) (h : packNat v = packNat w) : v = w := by
  induction v generalizing w with
  | nil => exact (List.eq_nil_of_length_eq_zero hl.symm).symm
  | cons a as ih =>
    cases w with
    | nil => exact absurd hl (by simp)
    | cons b bs =>
      have hl' : as.length = bs.length := Nat.succ.inj hl
      have h1 := packNat_lt (Valid.cons_iff.mp hv).2
      have h2 := packNat_lt (Valid.cons_iff.mp hw).2
      simp only [packNat, hl'] at h h1
      -- `a, b` are the quotients and the tails the remainders of division by `4 ^ |bs|`
      have hpos : 0 < 4 ^ bs.length := Nat.pow_pos (by decide)
      have hq : a.toNat = b.toNat := by
        have := congrArg (· / 4 ^ bs.length) h
        simpa only [Nat.add_comm (_ * _), Nat.add_mul_div_right _ _ hpos, Nat.div_eq_of_lt h1,
          Nat.div_eq_of_lt h2, Nat.zero_add] using this
      rw [UInt64.toNat_inj.mp hq] at h ⊢
      rw [ih (Valid.cons_iff.mp hv).2 (Valid.cons_iff.mp hw).2 hl' (Nat.add_left_cancel h)]

/-! ## `packDir`: what each machine operation does to a packed window -/

theorem packDir_toNat {w : List UInt64} (hv : Valid w) (hl : w.length ≤ 32) :
    (packDir w).toNat = packNat w * 4 ^ (32 - w.length) :=
  UInt64.toNat_ofNat_of_lt' (Nat.lt_of_lt_of_eq
    (Nat.mul_lt_mul_of_pos_right (packNat_lt hv) (Nat.pow_pos (by decide))) (four_pow_split hl))

theorem packDir_nil : packDir [] = 0 := rfl

/-- The top `|a|` digits of a packed window. -/
theorem packDir_append_div {a z : List UInt64} (hv : Valid (a ++ z))
    (hl : (a ++ z).length ≤ 32) :
    (packDir (a ++ z)).toNat / 4 ^ (32 - a.length) = packNat a := by
  have hS : 4 ^ (32 - a.length) = 4 ^ z.length * 4 ^ (32 - (a ++ z).length) := by
    rw [← Nat.pow_add, List.length_append, Nat.sub_add_eq,
      Nat.add_sub_cancel' (Nat.le_sub_of_add_le' (List.length_append ▸ hl))]
  rw [packDir_toNat hv hl, packNat_append, hS,
    Nat.mul_div_mul_right _ _ (Nat.pow_pos (by decide)), Nat.add_comm,
    Nat.add_mul_div_right _ _ (Nat.pow_pos (by decide)),
    Nat.div_eq_of_lt (packNat_lt (Valid.append_iff.mp hv).2), Nat.zero_add]

/-- Keeping the first `j` bases is clearing all but the top `2j` bits. -/
theorem packDir_take_toNat {w : List UInt64} (hv : Valid w) (hl : w.length ≤ 32) {j : Nat}
    (hj : j ≤ 32) :
    (packDir (w.take j)).toNat = (packDir w).toNat / 4 ^ (32 - j) * 4 ^ (32 - j) := by
  by_cases h : j ≤ w.length
  · have hlen : (w.take j).length = j := by rw [List.length_take, Nat.min_eq_left h]
    have := packDir_append_div (a := w.take j) (z := w.drop j)
      (by rwa [List.take_append_drop]) (by rwa [List.take_append_drop])
    rw [List.take_append_drop, hlen] at this
    rw [this, packDir_toNat (hv.take j) (Nat.le_trans (Nat.le_of_eq hlen) hj), hlen]
  · have h := Nat.le_of_not_le h
    rw [List.take_of_length_le h, packDir_toNat hv hl]
    exact (Nat.div_mul_cancel (Nat.dvd_mul_left_of_dvd
      (Nat.pow_dvd_pow 4 (Nat.sub_le_sub_left h 32)) _)).symm

/-- `x &&& (ones <<< sh)` clears the low `sh` bits. -/
theorem nat_mask (x sh : Nat) (hx : x < 2 ^ 64) :
    x &&& ((2 ^ 64 - 1) * 2 ^ sh % 2 ^ 64) = x / 2 ^ sh * 2 ^ sh := by
  apply Nat.eq_of_testBit_eq
  intro i
  rw [Nat.testBit_and, Nat.testBit_mod_two_pow, Nat.testBit_mul_two_pow,
    Nat.testBit_two_pow_sub_one, Nat.testBit_mul_two_pow, Nat.testBit_div_two_pow]
  by_cases h1 : sh ≤ i
  · rw [Nat.sub_add_cancel h1]
    by_cases h2 : i < 64
    · simp [h1, h2, show i - sh < 64 by omega]
    · simp [Nat.testBit_lt_two_pow (Nat.lt_of_lt_of_le hx
        (Nat.pow_le_pow_right (by decide) (Nat.le_of_not_lt h2)))]
  · simp [h1]

theorem mask_toNat (x : UInt64) {k : Nat} (h1 : 1 ≤ k) :
    (x &&& maskOf k).toNat = x.toNat / 4 ^ (32 - k) * 4 ^ (32 - k) := by
  rw [← two_pow_shift, ← nat_mask _ _ x.toNat_lt, UInt64.toNat_and, maskOf, shiftOf,
    toNat_shl _ (shift_lt h1)]
  rfl

theorem packDir_mask {w : List UInt64} {k : Nat} (hv : Valid w) (hl : w.length ≤ 32)
    (h1 : 1 ≤ k) (h32 : k ≤ 32) : packDir w &&& maskOf k = packDir (w.take k) :=
  UInt64.toNat_inj.mp ((mask_toNat _ h1).trans (packDir_take_toNat hv hl h32).symm)

theorem packDir_shl2 {d : UInt64} {u : List UInt64} (hv : Valid (d :: u))
    (hl : (d :: u).length ≤ 32) : packDir (d :: u) <<< 2 = packDir u := by
  have hu : u.length < 32 := hl
  apply UInt64.toNat_inj.mp
  refine (toNat_shl _ (n := 2) (by decide)).trans ?_
  -- `(d·4^|u| + P)·T·4 = d·2^64 + P·(T·4)` and the second summand is `packDir u`
  rw [packDir_toNat hv hl, packNat, List.length_cons, Nat.mul_assoc,
    show (2 : Nat) ^ 2 = 4 from rfl, ← four_pow_sub_succ hu, Nat.add_mul,
    ← packDir_toNat (Valid.cons_iff.mp hv).2 (Nat.le_of_lt hu), Nat.mul_assoc,
    four_pow_split (Nat.le_of_lt hu), Nat.mul_add_mod', Nat.mod_eq_of_lt (UInt64.toNat_lt _)]

/-- `+ (s <<< …)` writes the next base below those present; stated as a sum of `toNat`s, so
    that it also says that the addition does not wrap. -/
theorem packDir_grow_toNat {u : List UInt64} {s : UInt64} (hv : Valid u) (hl : u.length < 32)
    (hs : s ≤ 3) :
    (packDir u).toNat + (s <<< UInt64.ofNat (64 - 2 * (u.length + 1))).toNat
      = (packDir (u ++ [s])).toNat := by
  rw [base_shl_toNat hs (Nat.succ_pos _), packDir_toNat hv (Nat.le_of_lt hl),
    packDir_toNat (Valid.snoc hv hs) (by rw [List.length_append]; exact hl), packNat_snoc,
    List.length_append, List.length_singleton, four_pow_sub_succ hl, Nat.add_mul, Nat.mul_assoc,
    Nat.mul_comm 4]

/-- Window full: `<<< 2` drops the oldest base, then the new one is written at position `k`. -/
theorem packDir_slide_toNat {d s : UInt64} {u : List UInt64} {k : Nat} (hv : Valid (d :: u))
    (hl : (d :: u).length = k) (h32 : k ≤ 32) (hs : s ≤ 3) :
    (packDir (d :: u) <<< 2).toNat + (s <<< UInt64.ofNat (shiftOf k)).toNat
      = (packDir (u ++ [s])).toNat := by
  subst hl
  rw [packDir_shl2 hv h32]
  exact packDir_grow_toNat (Valid.cons_iff.mp hv).2 h32 hs

theorem packDir_cons_toNat {c : UInt64} {r : List UInt64} (hv : Valid (c :: r))
    (hl : r.length < 32) :
    (packDir (c :: r)).toNat = c.toNat * 4 ^ 31 + (packDir r).toNat / 4 := by
  rw [packDir_toNat hv hl, packDir_toNat (Valid.cons_iff.mp hv).2 (Nat.le_of_lt hl), packNat,
    List.length_cons, four_pow_sub_succ hl, ← Nat.mul_assoc, Nat.mul_div_cancel _ (by decide),
    Nat.add_mul, Nat.mul_assoc, ← Nat.pow_add,
    show r.length + (32 - (r.length + 1)) = 31 by omega]

/-- `>>> 2` makes room on top (the 32nd base, if any, falls off) and `+ (c <<< 62)` writes `c`
    there; as a sum of `toNat`s, so that it also says that the addition does not wrap. -/
theorem packDir_push_toNat {r : List UInt64} {c : UInt64} (hv : Valid r) (hl : r.length ≤ 32)
    (hc : c ≤ 3) :
    (packDir r >>> 2).toNat + (c <<< 62).toNat = (packDir (c :: r.take 31)).toNat := by
  have h1 : (packDir r >>> 2).toNat = (packDir r).toNat / 4 := toNat_shr _ (n := 2) (by decide)
  have h2 : (c <<< 62).toNat = c.toNat * 4 ^ 31 := base_shl_toNat hc (j := 1) (Nat.le_refl 1)
  have h3 : (packDir (r.take 31)).toNat = (packDir r).toNat / 4 * 4 :=
    packDir_take_toNat hv hl (j := 31) (by decide)
  rw [packDir_cons_toNat (Valid.cons_iff.mpr ⟨hc, hv.take 31⟩)
    (Nat.lt_succ_of_le (List.length_take_le 31 r)), h1, h2, h3, Nat.mul_div_cancel _ (by decide),
    Nat.add_comm]

/-- One update of the reverse-strand register, for every fill state and every `k`. -/
theorem packDir_rc_step {r : List UInt64} {c : UInt64} {k : Nat} (hv : Valid r)
    (hl : r.length ≤ 32) (h1 : 1 ≤ k) (h32 : k ≤ 32) (hc : c ≤ 3) :
    ((packDir r >>> 2) + (c <<< 62)) &&& maskOf k = packDir ((c :: r).take k) := by
  rw [add_eq_of_toNat (packDir_push_toNat hv hl hc),
    packDir_mask (Valid.cons_iff.mpr ⟨hc, hv.take 31⟩)
      (Nat.succ_le_succ (List.length_take_le 31 r)) h1 h32]
  obtain ⟨k, rfl⟩ := Nat.exists_eq_succ_of_ne_zero (Nat.ne_of_gt h1)
  rw [List.take_succ_cons, List.take_succ_cons, List.take_take,
    Nat.min_eq_left (Nat.le_of_succ_le_succ h32)]

/-- On a left-aligned window whose low bits are free, `|||` of the next base is `+`. -/
theorem packDir_or_snoc {r : List UInt64} {c : UInt64} (hv : Valid r) (hl : r.length < 32)
    (hc : c ≤ 3) :
    packDir r ||| (c <<< UInt64.ofNat (64 - 2 * (r.length + 1))) = packDir (r ++ [c]) := by
  apply UInt64.toNat_inj.mp
  have hlt : c.toNat * 4 ^ (32 - (r.length + 1)) < 2 ^ (2 * (32 - r.length)) := by
    rw [Nat.pow_mul, four_pow_sub_succ hl, Nat.mul_comm]
    exact Nat.mul_lt_mul_of_pos_left (Nat.lt_succ_of_le (toNat_le3 hc)) (Nat.pow_pos (by decide))
  rw [UInt64.toNat_or, ← packDir_grow_toNat hv hl hc, base_shl_toNat hc (Nat.succ_pos _),
    packDir_toNat hv (Nat.le_of_lt hl), show (4 : Nat) ^ (32 - r.length) = 2 ^ (2 * (32 - r.length))
      from (Nat.pow_mul 2 2 _).symm, ← Nat.shiftLeft_eq, Nat.shiftLeft_add_eq_or_of_lt hlt]

/-- Reading base number `|a|` of the packed window `a ++ [b] ++ z`. -/
theorem packDir_extract {a z : List UInt64} {b : UInt64} (hv : Valid (a ++ b :: z))
    (hl : (a ++ b :: z).length ≤ 32) :
    (packDir (a ++ b :: z) >>> UInt64.ofNat (64 - 2 * (a.length + 1))) &&& 3 = b := by
  rw [List.append_cons] at hv hl ⊢
  have hdiv := packDir_append_div hv hl
  rw [List.length_append, List.length_singleton, packNat_snoc] at hdiv
  apply UInt64.toNat_inj.mp
  rw [UInt64.toNat_and, show (3 : UInt64).toNat = 2 ^ 2 - 1 from rfl,
    Nat.and_two_pow_sub_one_eq_mod, toNat_shr _ (shift_lt (Nat.succ_pos _)), two_pow_shift, hdiv,
    Nat.mul_add_mod']
  exact Nat.mod_eq_of_lt (Nat.lt_succ_of_le (toNat_le3 (Valid.cons_iff.mp (Valid.append_iff.mp
    (Valid.append_iff.mp hv).1).2).1))

/-! ## `rcWindow` and `lastK` -/

@[simp] theorem rcWindow_length (w : List UInt64) : (rcWindow w).length = w.length := by
  rw [rcWindow, List.length_map, List.length_reverse]

theorem rcWindow_nil : rcWindow [] = [] := rfl

theorem rcWindow_append (a z : List UInt64) : rcWindow (a ++ z) = rcWindow z ++ rcWindow a := by
  simp only [rcWindow, List.reverse_append, List.map_append]

theorem rcWindow_cons (d : UInt64) (u : List UInt64) :
    rcWindow (d :: u) = rcWindow u ++ [3 - d] :=
  rcWindow_append [d] u

theorem rcWindow_snoc (u : List UInt64) (s : UInt64) :
    rcWindow (u ++ [s]) = (3 - s) :: rcWindow u :=
  rcWindow_append u [s]

theorem rcWindow_valid {w : List UInt64} (h : Valid w) : Valid (rcWindow w) := by
  intro b hb
  simp only [rcWindow, List.mem_map, List.mem_reverse] at hb
  obtain ⟨a, ha, rfl⟩ := hb
  exact three_sub_le3 (h a ha)

theorem lastK_of_length_le {k : Nat} {l : List UInt64} (h : l.length ≤ k) : lastK k l = l := by
  rw [lastK, Nat.sub_eq_zero_of_le h, List.drop_zero]

theorem lastK_nil (k : Nat) : lastK k [] = [] := List.drop_nil

theorem lastK_length {k : Nat} {l : List UInt64} : (lastK k l).length = min k l.length := by
  rw [lastK, List.length_drop, Nat.sub_sub_eq_min, Nat.min_comm]

theorem lastK_append_right {k : Nat} {a w : List UInt64} (h : w.length = k) :
    lastK k (a ++ w) = w := by
  rw [lastK, List.length_append, h, Nat.add_sub_cancel, List.drop_left]

theorem lastK_lastK_append {k : Nat} (t w : List UInt64) :
    lastK k (lastK k t ++ w) = lastK k (t ++ w) := by
  unfold lastK
  rw [← List.drop_append_of_le_length (Nat.sub_le _ _), List.drop_drop, List.length_drop,
    List.length_append, Nat.sub_right_comm,
    Nat.add_sub_of_le (Nat.sub_le_sub_right (Nat.le_add_right _ _) _)]

theorem lastK_snoc {k : Nat} (h1 : 1 ≤ k) (u : List UInt64) (b : UInt64) :
    lastK k (u ++ [b]) = lastK (k - 1) u ++ [b] := by
  obtain ⟨k, rfl⟩ := Nat.exists_eq_succ_of_ne_zero (Nat.ne_of_gt h1)
  unfold lastK
  rw [← List.drop_append_of_le_length (Nat.sub_le _ _), List.length_append, List.length_singleton,
    Nat.add_sub_add_right, Nat.succ_sub_one]

theorem Valid.lastK {l : List UInt64} (h : Valid l) (k : Nat) : Valid (lastK k l) := h.drop _

theorem rcWindow_lastK (k : Nat) (l : List UInt64) :
    rcWindow (lastK k l) = (rcWindow l).take k := by
  rw [rcWindow, rcWindow, lastK, ← List.map_take, List.take_reverse]

/-! ## The sliding window: `insert`, `feed` and the invariant they keep -/

/-- `km` (with `max_size = k`) currently holds exactly the window `u`. -/
structure Inv (k : Nat) (km : Kmer) (u : List UInt64) : Prop where
  hk : km.k = k
  len : u.length ≤ k
  valid : Valid u
  cur : km.cur = u.length
  dir : km.dir = packDir u
  rc : km.rc = packDir (rcWindow u)

theorem inv_new (k : Nat) : Inv k (new k) [] :=
  ⟨rfl, Nat.zero_le _, Valid.nil, rfl, rfl, rfl⟩

theorem inv_reset {k : Nat} {km : Kmer} {u : List UInt64} (h : Inv k km u) :
    Inv k (reset km) [] :=
  ⟨h.hk, Nat.zero_le _, Valid.nil, rfl, rfl, rfl⟩

theorem insert_k (km : Kmer) (s : UInt64) : (insert km s).k = km.k := by
  unfold insert; split <;> rfl

theorem insert_rc (km : Kmer) (s : UInt64) :
    (insert km s).rc = ((km.rc >>> 2) + (rcBase s <<< 62)) &&& maskOf km.k := by
  unfold insert; split <;> rfl

theorem insert_cur (km : Kmer) (s : UInt64) :
    (insert km s).cur = if km.cur = km.k then km.cur else km.cur + 1 := by
  unfold insert; split <;> rfl

theorem insert_dir (km : Kmer) (s : UInt64) :
    (insert km s).dir = if km.cur = km.k then (km.dir <<< 2) + (s <<< UInt64.ofNat (shiftOf km.k))
      else km.dir + (s <<< UInt64.ofNat (64 - 2 * (km.cur + 1))) := by
  unfold insert; split <;> rfl

theorem inv_insert {k : Nat} {km : Kmer} {u : List UInt64} {s : UInt64} (h : Inv k km u)
    (h1 : 1 ≤ k) (h32 : k ≤ 32) (hs : s ≤ 3) : Inv k (insert km s) (lastK k (u ++ [s])) := by
  obtain ⟨hk, hlen, hv, hcur, hdir, hrc⟩ := h
  refine ⟨(insert_k km s).trans hk, lastK_length ▸ Nat.min_le_left _ _,
    (Valid.snoc hv hs).lastK k, ?_, ?_, ?_⟩
  · rw [insert_cur, lastK_length, hcur, hk, List.length_append, List.length_singleton]
    split
    next hfull => rw [hfull]; exact (Nat.min_eq_left (Nat.le_succ k)).symm
    next hnf => exact (Nat.min_eq_right (Nat.lt_of_le_of_ne hlen hnf)).symm
  · rw [insert_dir, hcur, hk, hdir]
    split
    next hfull =>
      cases u with
      | nil => exact absurd hfull (Nat.ne_of_lt h1)
      | cons d u' =>
        rw [show lastK k (d :: u' ++ [s]) = u' ++ [s] from
          lastK_append_right (a := [d]) (List.length_append.trans hfull)]
        exact add_eq_of_toNat (packDir_slide_toNat hv hfull h32 hs)
    next hnf =>
      have hlt : u.length < k := Nat.lt_of_le_of_ne hlen hnf
      rw [lastK_of_length_le (by rw [List.length_append]; exact hlt)]
      exact add_eq_of_toNat (packDir_grow_toNat hv (Nat.lt_of_lt_of_le hlt h32) hs)
  · rw [insert_rc, hrc, hk, rcBase_eq hs, rcWindow_lastK, rcWindow_snoc]
    exact packDir_rc_step (rcWindow_valid hv)
      (Nat.le_trans (Nat.le_of_eq (rcWindow_length u)) (Nat.le_trans hlen h32)) h1 h32
      (three_sub_le3 hs)

theorem feed_append (km : Kmer) (a b : List UInt64) : feed km (a ++ b) = feed (feed km a) b := by
  induction a generalizing km with
  | nil => rfl
  | cons x xs ih =>
    simp only [List.cons_append, feed]
    split <;> exact ih _

theorem feed_cons_valid (km : Kmer) {s : UInt64} (hs : s ≤ 3) (w : List UInt64) :
    feed km (s :: w) = feed (insert km s) w :=
  if_neg (UInt64.not_lt.mpr hs)

theorem feed_cons_reset (km : Kmer) {s : UInt64} (hs : s > 3) (w : List UInt64) :
    feed km (s :: w) = feed (reset km) w :=
  if_pos hs

/-- The bases seen since the last non-base (or since the start, after the bases `t`). -/
def baseRun (t : List UInt64) : List UInt64 → List UInt64
  | [] => t
  | b :: bs => if b > 3 then baseRun [] bs else baseRun (t ++ [b]) bs

theorem baseRun_append (t a b : List UInt64) :
    baseRun t (a ++ b) = baseRun (baseRun t a) b := by
  induction a generalizing t with
  | nil => rfl
  | cons x xs ih =>
    simp only [List.cons_append, baseRun]
    split <;> exact ih _

theorem baseRun_valid (t : List UInt64) {w : List UInt64} (hw : Valid w) :
    baseRun t w = t ++ w := by
  induction w generalizing t with
  | nil => exact (List.append_nil t).symm
  | cons s w ih =>
    rw [baseRun, if_neg (UInt64.not_lt.mpr (Valid.cons_iff.mp hw).1), ih _ (Valid.cons_iff.mp hw).2,
      List.append_assoc, List.singleton_append]

theorem baseRun_suffix (t xs : List UInt64) : baseRun t xs <:+ t ++ xs := by
  induction xs generalizing t with
  | nil => rw [List.append_nil]; exact List.suffix_refl t
  | cons b bs ih =>
    rw [baseRun]
    split
    · exact ((ih []).trans (List.suffix_cons b bs)).trans (List.suffix_append t _)
    · exact List.append_cons t b bs ▸ ih _

/-- `t` is not part of the state: it stands for the bases fed since the last non-base, of which
    the machine only keeps the last `k`. `inv_feed_new` is the case `t = []`; the general `t` is
    what the induction needs. -/
theorem inv_feed {k : Nat} (h1 : 1 ≤ k) (h32 : k ≤ 32) :
    ∀ (xs : List UInt64) (km : Kmer) (t : List UInt64), Inv k km (lastK k t) →
      Inv k (feed km xs) (lastK k (baseRun t xs)) := by
  intro xs
  induction xs with
  | nil => intro km t h; exact h
  | cons s xs ih =>
    intro km t h
    rw [feed, baseRun]
    split
    next => exact ih _ [] ((lastK_nil k).symm ▸ inv_reset h)
    next hs =>
      refine ih _ _ ?_
      rw [← lastK_lastK_append]
      exact inv_insert h h1 h32 (UInt64.not_lt.mp hs)

theorem inv_feed_new {k : Nat} (h1 : 1 ≤ k) (h32 : k ≤ 32) (xs : List UInt64) :
    Inv k (feed (new k) xs) (lastK k (baseRun [] xs)) :=
  inv_feed h1 h32 xs (new k) [] ((lastK_nil k).symm ▸ inv_new k)

theorem inv_data {k : Nat} {km : Kmer} {u : List UInt64} (h : Inv k km u) : data km = canon u := by
  rw [data, canon, h.dir, h.rc]; rfl

theorem inv_isFull {k : Nat} {km : Kmer} {u : List UInt64} (h : Inv k km u) :
    isFull km = decide (u.length = k) := by
  rw [isFull, h.cur, h.hk]; exact Bool.beq_eq_decide_eq _ _

/-! ## `enumerate_kmers` against `specWindows` -/

theorem specWindows_short {k : Nat} :
    ∀ (l : List UInt64), l.length < k → specWindows k l = [] := by
  intro l
  induction l with
  | nil => intro _; rfl
  | cons b bs ih =>
    intro h
    rw [specWindows, if_neg (fun hh => Nat.not_le_of_lt h hh.1), ih (Nat.lt_of_succ_lt h)]

theorem specWindows_eq_positions (k : Nat) (h1 : 1 ≤ k) (l : List UInt64) :
    specWindows k l = (List.range (l.length + 1 - k)).filterMap (fun i =>
      if Valid ((l.drop i).take k) then some (canon ((l.drop i).take k)) else none) := by
  induction l with
  | nil => rw [List.length_nil, Nat.sub_eq_zero_of_le h1]; rfl
  | cons b bs ih =>
    by_cases hk : k ≤ bs.length + 1
    · rw [List.length_cons, Nat.sub_add_comm hk, List.range_succ_eq_map, List.filterMap_cons,
        List.filterMap_map, specWindows, ih]
      by_cases hval : Valid ((b :: bs).take k)
      · rw [if_pos ⟨hk, hval⟩, List.drop_zero, if_pos hval]; rfl
      · rw [if_neg (fun hh => hval hh.2), List.drop_zero, if_neg hval]; rfl
    · have hlt : bs.length + 1 + 1 ≤ k := Nat.not_le.mp hk
      rw [List.length_cons, Nat.sub_eq_zero_of_le hlt, specWindows_short _ hlt]; rfl

theorem specWindows_skip {k : Nat} (b : UInt64) (hb : b > 3) (bs : List UInt64) :
    ∀ (v : List UInt64), v.length < k → specWindows k (v ++ b :: bs) = specWindows k bs := by
  have hmem : ∀ (v : List UInt64), v.length < k → ¬ Valid ((v ++ b :: bs).take k) := by
    intro v hv hval
    refine UInt64.not_lt.mpr (hval b ?_) hb
    rw [List.take_append, ← Nat.sub_add_cancel (Nat.sub_pos_of_lt hv), List.take_succ_cons]
    exact List.mem_append_right _ (List.mem_cons_self ..)
  intro v
  induction v with
  | nil => intro hk; rw [List.nil_append, specWindows, if_neg (fun hh => hmem [] hk hh.2)]
  | cons a v ih =>
    intro hk
    rw [List.cons_append, specWindows, if_neg (fun hh => hmem (a :: v) hk hh.2),
      ih (Nat.lt_of_succ_lt hk)]

theorem specWindows_full {k : Nat} {x : UInt64} {t : List UInt64} (hl : (x :: t).length = k)
    (hv : Valid (x :: t)) (bs : List UInt64) :
    specWindows k (x :: t ++ bs) = canon (x :: t) :: specWindows k (t ++ bs) := by
  have htake : (x :: (t ++ bs)).take k = x :: t := List.take_left' hl
  rw [List.cons_append, specWindows, htake, if_pos ⟨by rw [← hl]; simp, hv⟩]

theorem enumLoop_spec {k : Nat} (h1 : 1 ≤ k) (h32 : k ≤ 32) :
    ∀ (rest : List UInt64) (km : Kmer) (u : List UInt64), Inv k km u →
      enumLoop km rest = specWindows k (lastK (k - 1) u ++ rest) := by
  have hshort : ∀ u, (lastK (k - 1) u).length < k := fun u =>
    lastK_length ▸ Nat.lt_of_le_of_lt (Nat.min_le_left _ _) (Nat.sub_lt h1 Nat.one_pos)
  intro rest
  induction rest with
  | nil =>
    intro km u _
    rw [List.append_nil, specWindows_short _ (hshort u)]
    rfl
  | cons b bs ih =>
    intro km u h
    rw [enumLoop]
    split
    next hb =>
      rw [ih _ _ (inv_reset h), specWindows_skip b hb bs _ (hshort u),
        lastK_nil, List.nil_append]
    next hb =>
      have hi := inv_insert h h1 h32 (UInt64.not_lt.mp hb)
      rw [lastK_snoc h1] at hi
      rw [List.append_cons]
      generalize lastK (k - 1) u ++ [b] = w at hi ⊢
      show (if isFull (insert km b) then data (insert km b) :: enumLoop (insert km b) bs
        else enumLoop (insert km b) bs) = _
      rw [inv_isFull hi, inv_data hi, ih _ _ hi]
      by_cases hfull : w.length = k
      · rw [if_pos (decide_eq_true hfull)]
        cases w with
        | nil => exact absurd hfull (Nat.ne_of_lt h1)
        | cons x t =>
          rw [specWindows_full hfull hi.valid, show lastK (k - 1) (x :: t) = t from
            lastK_append_right (a := [x]) (by rw [← hfull]; rfl)]
      · rw [if_neg (mt of_decide_eq_true hfull),
          lastK_of_length_le (Nat.le_sub_one_of_lt (Nat.lt_of_le_of_ne hi.len hfull))]

theorem enumerateKmers_spec (k : Nat) (h1 : 1 ≤ k) (h32 : k ≤ 32) (contig : List UInt64) :
    enumerateKmers contig k = specWindows k contig := by
  rw [enumerateKmers]
  split
  next h => rw [specWindows_short _ h]
  next => rw [enumLoop_spec h1 h32 contig (new k) [] (inv_new k), lastK_nil, List.nil_append]

/-! ## `reverse_complement_kmer`; every aligned word is a packed window -/

/-- With `n + 1` iterations to go and `m` done, the loop reads digit `n + 1` (from the top) and
    writes digit `m + 1`. -/
theorem rcKmerLoop_step {n m k : Nat} (hk : k = n + 1 + m) (h32 : k ≤ 32) (kmer acc : UInt64) :
    rcKmerLoop kmer k (n + 1) acc = rcKmerLoop kmer k n (acc |||
      (rcBase ((kmer >>> UInt64.ofNat (64 - 2 * (n + 1))) &&& 3)
        <<< UInt64.ofNat (64 - 2 * (m + 1)))) := by
  have hi : k - (n + 1) = m := by rw [hk, Nat.add_sub_cancel_left]
  have hj : k - 1 - m = n := by rw [Nat.sub_right_comm, hk, Nat.add_sub_cancel, Nat.add_sub_cancel]
  -- digit `j` from the top sits `k - j` digits above the lowest one, i.e. at shift `64 - 2 * j`
  have hsh : ∀ {i j : Nat}, k = j + i → shiftOf k + 2 * i = 64 - 2 * j := by
    intro i j h
    subst h
    rw [shiftOf, Nat.mul_add, Nat.sub_add_eq, Nat.sub_add_cancel (Nat.le_sub_of_add_le'
      (Nat.le_trans (Nat.le_of_eq (Nat.mul_add 2 j i).symm) (Nat.mul_le_mul_left 2 h32)))]
  have hk' : k = m + 1 + n := by omega
  -- read shift (`j = n + 1`, `i = m`), then write shift (`j = m + 1`, `i = n`)
  rw [rcKmerLoop, hi, hj, hsh hk, hsh hk']

/-- The loop with `|ar|` iterations to go has complemented the bases `z` behind the (reversed)
    prefix `ar` still to be read. -/
theorem rcKmerLoop_spec {k : Nat} (h32 : k ≤ 32) :
    ∀ (ar z : List UInt64), Valid (ar.reverse ++ z) → (ar.reverse ++ z).length = k →
      rcKmerLoop (packDir (ar.reverse ++ z)) k ar.length (packDir (rcWindow z))
        = packDir (rcWindow (ar.reverse ++ z)) := by
  intro ar
  induction ar with
  | nil => intro z _ _; rfl
  | cons b ar ih =>
    intro z
    rw [List.reverse_cons, List.append_assoc, List.singleton_append]
    intro hv hl
    have hb := Valid.cons_iff.mp (Valid.append_iff.mp hv).2
    have hk : k = ar.reverse.length + 1 + (rcWindow z).length := by
      rw [← hl, List.length_append, List.length_cons, rcWindow_length, Nat.add_right_comm,
        Nat.add_assoc]
    rw [← ih (b :: z) hv hl, List.length_cons, ← List.length_reverse,
      rcKmerLoop_step hk h32, packDir_extract hv (hl ▸ h32), rcBase_eq hb.1,
      packDir_or_snoc (rcWindow_valid hb.2)
        (Nat.lt_of_lt_of_le (Nat.lt_add_of_pos_left (Nat.succ_pos _)) (hk ▸ h32))
        (three_sub_le3 hb.1), ← rcWindow_cons]

/-- Every number below `4 ^ k` is the base-4 value of a window of `k` bases. -/
theorem exists_packNat (k n : Nat) (h : n < 4 ^ k) :
    ∃ w, Valid w ∧ w.length = k ∧ packNat w = n := by
  induction k generalizing n with
  | zero => exact ⟨[], Valid.nil, rfl, (Nat.lt_one_iff.mp h).symm⟩
  | succ k ih =>
    obtain ⟨w, hv, hl, hp⟩ := ih (n / 4) (Nat.div_lt_of_lt_mul (Nat.mul_comm .. ▸ h))
    have hlt : n % 4 < 4 := Nat.mod_lt n (by decide)
    have hd : (UInt64.ofNat (n % 4)).toNat = n % 4 :=
      UInt64.toNat_ofNat_of_lt' (Nat.lt_trans hlt (by decide))
    have h3 : UInt64.ofNat (n % 4) ≤ 3 :=
      UInt64.le_iff_toNat_le.mpr (Nat.le_trans (Nat.le_of_eq hd) (Nat.le_of_lt_succ hlt))
    refine ⟨w ++ [UInt64.ofNat (n % 4)], Valid.snoc hv h3,
      by rw [List.length_append, hl]; rfl, ?_⟩
    rw [packNat_snoc, hp, hd, Nat.div_add_mod']

theorem exists_window (k : Nat) (h32 : k ≤ 32) (x : UInt64) (hx : x.toNat % 4 ^ (32 - k) = 0) :
    ∃ w, Valid w ∧ w.length = k ∧ packDir w = x := by
  obtain ⟨w, hv, hl, hp⟩ := exists_packNat k (x.toNat / 4 ^ (32 - k))
    (Nat.div_lt_of_lt_mul (by rw [Nat.mul_comm, four_pow_split h32]; exact x.toNat_lt))
  refine ⟨w, hv, hl, UInt64.toNat_inj.mp ?_⟩
  rw [packDir_toNat hv (hl ▸ h32), hp, hl]
  exact Nat.div_mul_cancel (Nat.dvd_of_mod_eq_zero hx)

end Ragc.Kmer
