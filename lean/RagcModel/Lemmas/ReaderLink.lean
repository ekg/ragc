import RagcModel.Lemmas.ReaderState
import RagcModel.Lemmas.WriterMain
/-!
# The link between the reader-handle model (C08), the range model (C07) and the written file (C01/C02)

`Model/ReaderState.lean` proves its theorems for an ABSTRACT archive content `A : Arch`;
`Props.C01.read_write` proves that the independent decoder recovers the input from the bytes of the
reference writer. This file connects the two, in three parts:

* every `Arch`: when every descriptor of a contig loads, the loops of the handle model over the pure
  loader are the functions of `Model/Range.lean` on the loaded, re-oriented segments (`viewOf`);
* the bridge `archOfDecoded`: the `Arch` made of what the stages of the independent decoder return;
* the written file: `archOf cfg inp dec`, the content the reference writer stores, defined from the
  writer's PLAN (no ZSTD, no bytes). Every descriptor of every contig of `archOf` loads the writer's
  piece (`contig_views`, `written_contig`), so the handle answers with the input's data. That the
  decoder's stages build exactly `archOf` from the written bytes is `Props.C08.written_archive_content`.

## What is NOT proved here (honest list)

1. `Arch.ref/delta/raw` of `archOf` are the FORMAT's reading of a group (the independent decoder's
   `Agc3.getSegment`: metadata-driven unframing, `entryAddress`, `LzDiff.decodeSeg`). ragc's own
   `Decompressor::get_segment` additionally has a "2-bit packed?" heuristic on reference parts that
   misfires for references of ≤ 2 symbols; that the two readers agree on archives `create` writes is
   checked by the C02 harness (decoder = ragc's reader on every generated archive), not proved.
2. `Arch.streams` (`get_compression_stats`) and `Arch.refOld` (read only by the pre-repair `stepOld`)
   are not linked: `archOf` sets them to `[]` / `err`. `compressionStats` is therefore outside
   `reader_answers_input`.
3. Sample names must be pairwise distinct and contig names distinct inside each sample
   (`NamesDistinct`, decidable) for the answers to be "the input's": the handle resolves a sample name
   to the LAST sample so called and a contig name to the FIRST contig so called (`lookup`,
   `findContig`); the index-based lemmas (`piece_loads`, `contig_views`) hold without it.
4. That the REAL writer is an instance of `writeArchive` is the C02 harness's byte identity, as for
   `read_write`.
5. The other operations (`get_contig_segments_desc`, `get_segment_data`, `get_reference_segment`,
   `get_samples_by_prefix`, `list_samples_with_prefix`, `get_group_statistics`, `get_all_segments`) are
   functions of `archOf` after any history (`Props.C08.answer_canonical` + `archOf_wf`) but their
   values are not spelled out in terms of the input here.
-/
namespace Ragc.ReaderLink
open Ragc.CollVarint (Res)
open Ragc.Names (Name)
open Ragc.Details (Seg Contig)
open Ragc.ReaderState

/-! # Part A — the handle's loops are C07's functions on the loaded views -/

def optErr {α : Type} : Option α → Res α
  | some a => .ok a
  | none => .err

def optPanic {α : Type} : Option α → Res α
  | some a => .ok a
  | none => .panic

/-- The descriptor loads on an empty-cache handle. -/
def Loads (A : Arch) (d : Seg) : Prop := ∃ x, segPure A d = .ok x

/-- The loaded segment after the orientation fix (`[]` if it does not load). -/
def dataOf (A : Arch) (d : Seg) : Bases :=
  match segPure A d with
  | .ok x => orient d x
  | _ => []

/-- The reader's view of one descriptor: what `Model/Range.lean` calls a `Seg`. -/
def viewOf (A : Arch) (d : Seg) : Ragc.Range.Seg := ⟨d.rawLen, dataOf A d⟩

theorem dataOf_ok (A : Arch) (d : Seg) (x : Bases) (h : segPure A d = .ok x) : dataOf A d = orient d x := by
  simp only [dataOf, h]

/-- The descriptors `segs` carry the contig `data` on `A`: they all load, the loaded views are well
formed (what the C07 theorems ask of a contig) and their full extraction is `data`. The two `2^32`
bounds are what the format gives (`raw_length` is a `u32` field, `DecisionsOK` admits contigs below
4 GiB); C07 weakens them to the `2^64` that `handle_length_eq` asks. -/
structure Carries (A : Arch) (k : Nat) (segs : List Seg) (data : Bases) : Prop where
  loads : ∀ d ∈ segs, Loads A d
  wf : Ragc.Range.WF k (segs.map (viewOf A))
  full : Ragc.Range.full k (segs.map (viewOf A)) = data
  raw32 : ∀ v ∈ segs.map (viewOf A), v.rawLen < 2 ^ 32
  len32 : data.length < 2 ^ 32

theorem reconstructLoop_pure (A : Arch) (k : Nat) (segs : List Seg) (acc : Bases) (h : ∀ d ∈ segs, Loads A d) :
    (reconstructLoop (pureLoad A) k () false segs acc).2
      = optErr (Ragc.Range.reconstructTail k (segs.map (viewOf A)) acc) := by
  induction segs generalizing acc with
  | nil => rfl
  | cons d rest ih =>
    obtain ⟨x, hx⟩ := h d List.mem_cons_self
    rw [reconstructLoop, pureLoad_apply, hx, List.map_cons, Ragc.Range.reconstructTail]
    simp only [Bool.false_eq_true, if_false, viewOf, dataOf_ok A d x hx]
    split
    · rfl
    · exact ih _ (fun d' hd' => h d' (List.mem_cons_of_mem _ hd'))

/-- `reconstruct_contig` of the handle model = `Range.reconstruct` on the loaded views. -/
theorem reconstruct_pure (A : Arch) (k : Nat) (segs : List Seg) (h : ∀ d ∈ segs, Loads A d) :
    (reconstruct (pureLoad A) k () segs).2 = optErr (Ragc.Range.reconstruct k (segs.map (viewOf A))) := by
  cases segs with
  | nil => rfl
  | cons d rest =>
    obtain ⟨x, hx⟩ := h d (by simp)
    have hd := dataOf_ok A d x hx
    unfold reconstruct reconstructLoop
    simp only [pureLoad, hx, if_true, List.map_cons, Ragc.Range.reconstruct, viewOf, hd, List.nil_append]
    exact reconstructLoop_pure A k rest _ (fun d' hd' => h d' (List.mem_cons_of_mem _ hd'))

/-- The first pass of `get_contig_range` reads the `raw_length`s only. -/
theorem segmentRanges_erase (k : Nat) (l : List Ragc.Range.Seg) (i pos : Nat) :
    Ragc.Range.segmentRanges k i pos (l.map fun s => { rawLen := s.rawLen, data := [] })
      = Ragc.Range.segmentRanges k i pos l := by
  induction l generalizing i pos with
  | nil => rfl
  | cons s rest ih => simp only [List.map_cons, Ragc.Range.segmentRanges, ih]

theorem collectLoop_pure (A : Arch) (k : Nat) (segs : List Seg) (start e : Nat)
    (h : ∀ d ∈ segs, Loads A d) (ranges : List (Nat × Nat × Nat)) (acc : Bases) :
    (collectLoop (pureLoad A) k segs start e () ranges acc).2
      = optPanic (Ragc.Range.collectRange k (segs.map (viewOf A)) start e ranges acc) := by
  fun_induction collectLoop (pureLoad A) k segs start e () ranges acc <;> rw [Ragc.Range.collectRange]
  case case1 => rfl -- no range left
  case case2 hle ih => rw [if_pos hle]; exact ih -- `continue`
  case case3 hle hge => rw [if_neg hle, if_pos hge]; rfl -- `break`
  case case4 hle hge hn => rw [if_neg hle, if_neg hge, List.getElem?_map, hn]; rfl -- index panic
  case case5 hle hge d hd c1 data hg _ _ _ _ _ _ hc ih => -- the guarded slice is copied
    have hs : segPure A d = .ok data := (Prod.mk.inj hg).2
    rw [if_neg hle, if_neg hge, List.getElem?_map, hd]
    simp only [Option.map_some, viewOf, dataOf_ok A d data hs]
    rw [if_pos hc]
    exact ih
  case case6 hle hge d hd c1 data hg _ _ _ _ _ _ hc ih => -- the guard fails: nothing copied
    have hs : segPure A d = .ok data := (Prod.mk.inj hg).2
    rw [if_neg hle, if_neg hge, List.getElem?_map, hd]
    simp only [Option.map_some, viewOf, dataOf_ok A d data hs]
    rw [if_neg hc]
    exact ih
  case case7 hle hge d hd c1 hg | case8 hle hge d hd c1 hg => -- `err` / `panic`: excluded, every descriptor loads
    obtain ⟨x, hx⟩ := h d (List.mem_of_getElem? hd)
    rw [(Prod.mk.inj hg).2] at hx
    cases hx

/-- `get_contig_range` of the handle model (after the `start >= end` early return and the descriptor
lookup) = `Range.contigRange` on the loaded views. -/
theorem rangeOf_pure (A : Arch) (k : Nat) (segs : List Seg) (start end_ : Nat)
    (h : ∀ d ∈ segs, Loads A d) (hse : ¬ start ≥ end_) :
    (rangeOf (pureLoad A) k () segs start end_).2
      = optPanic (Ragc.Range.contigRange k (segs.map (viewOf A)) start end_) := by
  unfold rangeOf Ragc.Range.contigRange
  rw [if_neg hse]
  have he : (segs.map fun d => ({ rawLen := d.rawLen, data := [] } : Ragc.Range.Seg))
      = (segs.map (viewOf A)).map fun s => { rawLen := s.rawLen, data := [] } := by
    rw [List.map_map]; rfl
  rw [he, segmentRanges_erase]
  cases Ragc.Range.segmentRanges k 0 0 (segs.map (viewOf A)) with
  | none => rfl
  | some rl =>
    obtain ⟨ranges, contigLen⟩ := rl
    simp only []
    split
    · rfl
    · exact collectLoop_pure A k segs start _ h ranges []

/-- `get_contig` answers `Range.reconstruct` of the loaded views. -/
theorem answer_getContig (A : Arch) (s c : Name) (segs : List Seg)
    (hd : contigDesc A.samples (table A) s c = some segs) (hl : ∀ d ∈ segs, Loads A d) :
    answer A (.getContig s c)
      = mapRes Val.bases (optErr (Ragc.Range.reconstruct A.k (segs.map (viewOf A)))) := by
  simp only [answer, answerDesc, hd, reconstruct_pure A A.k segs hl]

/-- `get_contig_range` answers `Range.contigRange` of the loaded views (checked reading). -/
theorem answer_contigRange (A : Arch) (s c : Name) (start end_ : Nat) (segs : List Seg)
    (hd : contigDesc A.samples (table A) s c = some segs) (hl : ∀ d ∈ segs, Loads A d) :
    answer A (.contigRange s c start end_)
      = mapRes Val.bases (optPanic (Ragc.Range.contigRange A.k (segs.map (viewOf A)) start end_)) := by
  by_cases hse : start ≥ end_
  · simp only [answer, hse, if_true, Ragc.Range.contigRange, optPanic, mapRes]
  · simp only [answer, hse, if_false, answerDesc, hd, rangeOf_pure A A.k segs start end_ hl hse]

/-- `get_contig_length` answers the wrapping length loop on the `raw_length`s of the views. -/
theorem answer_contigLength (A : Arch) (s c : Name) (segs : List Seg)
    (hd : contigDesc A.samples (table A) s c = some segs) :
    answer A (.contigLength s c)
      = .ok (.nat (Ragc.Range.contigLengthWrapping A.k ((segs.map (viewOf A)).map Ragc.Range.Seg.rawLen))) := by
  simp only [answer, answerDesc, hd, List.map_map, Function.comp_def, viewOf]

/-- `get_sample`'s loop on contigs whose descriptors all load and whose later segments are at least `k`
long: every contig reconstructs to the full extraction of its views. -/
theorem sampleLoop_pure (A : Arch) (k : Nat) (cs : List Contig) (acc : List (Name × Bases))
    (h : ∀ x ∈ cs, (∀ d ∈ x.segs, Loads A d) ∧ ∀ v ∈ (x.segs.map (viewOf A)).tail, k ≤ v.data.length) :
    (sampleLoop (pureLoad A) k () cs acc).2
      = .ok (acc ++ cs.map fun x => (x.name, Ragc.Range.full k (x.segs.map (viewOf A)))) := by
  induction cs generalizing acc with
  | nil => simp [sampleLoop]
  | cons x rest ih =>
    obtain ⟨hl, hk⟩ := h x List.mem_cons_self
    have hr := reconstruct_pure A k x.segs hl
    rw [Ragc.Range.reconstruct_eq_full k _ hk] at hr
    rw [sampleLoop]
    rcases hp : reconstruct (pureLoad A) k () x.segs with ⟨u, r⟩
    rw [hp] at hr
    subst hr
    simp only [optErr]
    rw [ih _ (fun y hy => h y (List.mem_cons_of_mem _ hy)), List.append_assoc, List.map_cons, List.singleton_append]

/-- With pairwise distinct names, `sample_ids.get(name)` is the position of the name. -/
theorem lookup_nodup (names : List Name) (i : Nat) (s : Name) (hnd : names.Nodup)
    (h : names[i]? = some s) : lookup names s = some i := by
  induction names generalizing i with
  | nil => simp at h
  | cons x xs ih =>
    simp only [List.nodup_cons] at hnd
    cases i with
    | zero =>
      simp only [List.getElem?_cons_zero, Option.some.injEq] at h
      subst h
      simp only [lookup, (lookup_eq_none_iff xs x).mpr hnd.1, if_true]
    | succ i =>
      simp only [List.getElem?_cons_succ] at h
      simp only [lookup, ih i hnd.2 h]

/-- With pairwise distinct contig names, the first contig called `cs[i].name` is `cs[i]`. -/
theorem findContig_nodup (cs : List Contig) (i : Nat) (x : Contig) (hnd : (cs.map Contig.name).Nodup)
    (h : cs[i]? = some x) : findContig cs x.name = some x := by
  obtain ⟨hi, rfl⟩ := List.getElem?_eq_some_iff.mp h
  exact Ragc.WriterLemmas.find?_key_getElem Contig.name cs hnd i hi

/-! # Part B — the bridge: from the decoder's tables to an `Arch` -/

section Bridge
open Ragc.Agc3

/-- What the get-segment path reads of one decoded group: the reference and the pack entries. -/
structure GView where
  ref : Option (List Nat)
  packs : Array (Array (List Nat))

/-- The pack entry that the addressing rule (`Agc3.entryAddress`) assigns to in-group id `i`. -/
def fetchV (V : GView) (g i : Nat) : Option (List Nat) :=
  (V.packs[(entryAddress g i).1]?).bind (·[(entryAddress g i).2]?)

/-- `contig name ↦ descriptors` table of one sample as a list of `Details.Contig`. -/
def toContigs (t : Ragc.Agc3.ContigTable) : List Contig := t.map fun p => ⟨p.1, p.2⟩

/-- Consecutive chunks of `n` (the metadata batches: 50 samples each, the last one shorter). -/
def chunkF {α : Type} (n : Nat) : Nat → List α → List (List α)
  | 0, _ => []
  | fuel + 1, l => if l.isEmpty then [] else l.take n :: chunkF n fuel (l.drop n)

def chunk {α : Type} (n : Nat) (l : List α) : List (List α) := chunkF n l.length l

theorem chunkF_flatten {α : Type} (n : Nat) (hn : 0 < n) (fuel : Nat) (l : List α)
    (h : l.length ≤ fuel) : (chunkF n fuel l).flatten = l := by
  induction fuel generalizing l with
  | zero =>
    rw [List.eq_nil_of_length_eq_zero (Nat.le_zero.mp h)]
    rfl
  | succ fuel ih =>
    rw [chunkF]
    split
    · next he => rw [List.isEmpty_iff.mp he]; rfl
    · have hd : (l.drop n).length ≤ fuel := by
        rw [List.length_drop]
        exact Nat.sub_le_iff_le_add.mpr (Nat.le_trans h (Nat.add_le_add_left hn fuel))
      rw [List.flatten_cons, ih (l.drop n) hd, List.take_append_drop]

theorem chunk_flatten {α : Type} (n : Nat) (hn : 0 < n) (l : List α) : (chunk n l).flatten = l :=
  chunkF_flatten n hn l.length l (Nat.le_refl _)

/-- **The bridge.** The abstract archive content made of: `k`, `min_match_len` (params stream), the
sample names, the per-sample contig tables (`decodeCatalogue`; cut into batches of 50 samples as
`store_contig_batch` wrote them — nothing in C08 depends on the batch size) and a per-group view of
the segment streams. `ref`, `delta`, `raw` are the three exits of the FORMAT's get-segment rule
(`Agc3.getSegment`): reference = the group's decoded `x…r` part; `delta g i r` = the pack entry
addressed by `entryAddress g i`, LZ-decoded against the cached reference `r`; `raw g i` = the entry
itself, id 0 being the placeholder. `refOld` (pre-repair code only) and `streams`
(`get_compression_stats`) are not linked. -/
def archOfViews (k mm : Nat) (names : List Name) (tables : List ContigTable) (view : Nat → Option GView) : Arch :=
  { k := k
    samples := names
    batches := chunk 50 (tables.map toContigs)
    ref := fun g =>
      match view g with
      | none => .err
      | some V =>
        match V.ref with
        | some r => .ok r
        | none => .err
    refOld := fun _ => .err
    delta := fun g i r =>
      match view g with
      | none => .err
      | some V =>
        match fetchV V g i with
        | none => .err
        | some bytes =>
          match Ragc.Model.LzDiff.decodeSeg mm r bytes with
          | some s => .ok s
          | none => .err
    raw := fun g i =>
      if i = 0 then .err
      else
        match view g with
        | none => .err
        | some V =>
          match fetchV V g i with
          | none => .err
          | some bytes => .ok bytes
    streams := [] }

def viewOfGds (gds : Array GroupD) (g : Nat) : Option GView :=
  (Agc3.findGroup gds g).map fun G => ⟨G.ref, G.packs⟩

/-- The `Arch` of a decoded archive: from the results of `readParams` (`k`, `mm`),
`decodeCatalogue` (`names`, `tables`) and `decodeGroups` (`gds`). -/
def archOfDecoded (k mm : Nat) (names : List Name) (tables : Array ContigTable) (gds : Array GroupD) : Arch :=
  archOfViews k mm names tables.toList (viewOfGds gds)

/-- Every error of the decoder is the handle's `err` (`Props.C08.handle_loader_is_decoder` compares the
two loaders through it). -/
def toRes {α : Type} : Except String α → Res α
  | .ok a => .ok a
  | .error _ => .err

end Bridge

theorem table_archOfViews (k mm : Nat) (names : List Name) (tables : List Ragc.Agc3.ContigTable)
    (view : Nat → Option GView) :
    table (archOfViews k mm names tables view) = tables.map toContigs := by
  unfold table archOfViews
  exact chunk_flatten 50 (by decide) _

/-! # Part C — the archive content the reference writer stores -/

section Written
open Ragc.Writer Ragc.WriterLemmas

/-- The plan (`Writer.planGroup`: reference, pack entries, in-group ids) of the group with id `g`. -/
def planAt (cfg : Cfg) (inp : List Writer.Sample) (dec : Decisions) (g : Nat) : Option GroupPlan :=
  (Writer.findGroup dec g).bind (planOf cfg (storedAll cfg.k inp dec))

/-- What `storeGroup` stores of group `g`, read back as the format says. -/
def plansView (cfg : Cfg) (inp : List Writer.Sample) (dec : Decisions) (g : Nat) : Option GView :=
  (planAt cfg inp dec g).map fun P => ⟨P.ref, toArr P.packs⟩

/-- The in-group ids the `Packs` machine hands to the members of group `g` (= `Writer.idsOf outs g`). -/
def idsOfPlans (cfg : Cfg) (inp : List Writer.Sample) (dec : Decisions) (g : Nat) : List Nat :=
  ((planAt cfg inp dec g).map (·.ids)).getD []

/-- The descriptor the writer registers for a piece (= `Writer.descOf outs`, `descOf_eq`). -/
def descOfP (cfg : Cfg) (inp : List Writer.Sample) (dec : Decisions) (d : PieceDec) : Seg :=
  ⟨d.group, (idsOfPlans cfg inp dec d.group).getD d.slot 0, d.rev, d.len⟩

def tableOfP (cfg : Cfg) (inp : List Writer.Sample) (dec : Decisions) (cs : List Writer.Contig)
    (dcs : List (List PieceDec)) : Ragc.Agc3.ContigTable :=
  List.zipWith (fun c ds => (c.name, ds.map (descOfP cfg inp dec))) cs dcs

/-- Per sample, the table `contig name ↦ descriptors` of the writer's catalogue. -/
def tablesOf (cfg : Cfg) (inp : List Writer.Sample) (dec : Decisions) : List Ragc.Agc3.ContigTable :=
  List.zipWith (fun s dcs => tableOfP cfg inp dec s.contigs dcs) inp dec.pieces

/-- **The abstract archive content that `writeArchive cfg inp dec zc` stores** (independent of `zc`):
the input's sample names in order; per sample the contig names with the descriptors the writer
registers, in batches of 50 samples; per group the plan's reference and pack entries, read with the
format's get-segment rule (`archOfViews`). `Props.C08.written_archive_content` proves that this is the
`Arch` the decoder's stages build from the written bytes. -/
def archOf (cfg : Cfg) (inp : List Writer.Sample) (dec : Decisions) : Arch :=
  archOfViews cfg.k cfg.minMatch (inp.map (·.name)) (tablesOf cfg inp dec) (plansView cfg inp dec)

/-- Sample names pairwise distinct, contig names distinct inside each sample (what
`register_sample_contig` guarantees of the catalogue; decidable). -/
def NamesDistinct (inp : List Writer.Sample) : Prop :=
  (inp.map (·.name)).Nodup ∧ ∀ s ∈ inp, (s.contigs.map (·.name)).Nodup

instance (inp : List Writer.Sample) : Decidable (NamesDistinct inp) := by
  unfold NamesDistinct; exact inferInstance

/-- The planner answers for every group (it does whenever `min_match_len ≥ 4`; implied by
`writeArchive … = some bs`). -/
def Planned (cfg : Cfg) (inp : List Writer.Sample) (dec : Decisions) : Prop :=
  ∀ G ∈ dec.groups, ∃ P, planOf cfg (storedAll cfg.k inp dec) G = some P

theorem planned_of_writeGroups (cfg : Cfg) (inp : List Writer.Sample) (dec : Decisions)
    (zc : Nat → List Nat → List Nat) (outs : List GroupOut)
    (hw : writeGroups cfg zc (storedAll cfg.k inp dec) dec.groups = some outs) : Planned cfg inp dec := by
  intro G hG
  obtain ⟨hol, hwat⟩ := writeGroups_at cfg zc _ _ _ hw
  obtain ⟨gi, hgi, rfl⟩ := List.getElem_of_mem hG
  obtain ⟨datas, P, hdat, hplan, _⟩ := hwat gi hgi (by omega)
  exact ⟨P, by simp only [planOf, hdat, Option.bind_some, hplan]⟩

theorem planned_of_writeArchive (cfg : Cfg) (inp : List Writer.Sample) (dec : Decisions)
    (zc : Nat → List Nat → List Nat) (bs : List Nat) (hw : writeArchive cfg inp dec zc = some bs) :
    Planned cfg inp dec := by
  obtain ⟨outs, hwg, _⟩ := writeArchive_unpack cfg inp dec zc bs hw
  exact planned_of_writeGroups cfg inp dec zc outs hwg

theorem stored_of_piece (cfg : Cfg) (inp : List Writer.Sample) (dec : Decisions) (hok : DecOK cfg inp dec)
    (r : PieceRef) (d : PieceDec) (h : lookup3 dec.pieces r = some d) :
    ∃ x, lookup3 (storedAll cfg.k inp dec) r = some x := by
  obtain ⟨dcs, ds, h3, h4, h5⟩ := lookup3_get _ _ _ h
  have hs : r.1 < inp.length := by
    rw [← hok.shape]; exact (List.getElem?_eq_some_iff.mp h3).1
  have h1 : inp[r.1]? = some inp[r.1] := List.getElem?_eq_getElem hs
  have hS := hok.samples _ (mem_zip_of_get _ _ _ _ _ h1 h3)
  have hc : r.2.1 < inp[r.1].contigs.length := by
    have hsh : dcs.length = inp[r.1].contigs.length := hS.shape
    rw [← hsh]; exact (List.getElem?_eq_some_iff.mp h4).1
  have h2 : inp[r.1].contigs[r.2.1]? = some inp[r.1].contigs[r.2.1] := List.getElem?_eq_getElem hc
  have hj : r.2.2 < (cutPieces cfg.k inp[r.1].contigs[r.2.1].data (ds.map (·.len))).length := by
    rw [cutPieces_length]
    simpa using (List.getElem?_eq_some_iff.mp h5).1
  exact ⟨_, stored_lookup cfg.k inp dec r.1 r.2.1 r.2.2 _ _ dcs ds d _ h1 h2 h3 h4 h5
    (List.getElem?_eq_getElem hj)⟩

theorem planGroup_isSome (mm : Nat) (G : GroupDec) (datas : List (List Nat))
    (hmm : Ragc.Gen.lzHashingStep ≤ mm) (hne : datas ≠ []) : ∃ P, planGroup mm G datas = some P := by
  unfold planGroup
  by_cases hg : G.id ≥ 16
  · rw [if_pos hg]
    cases datas with
    | nil => exact absurd rfl hne
    | cons ref rest =>
      simp only []
      obtain ⟨deltas, hd⟩ : ∃ deltas, encodeAll mm ref rest = some deltas :=
        mapM_isSome _ rest (fun t _ => Ragc.Model.LzDiff.encodeExact_isSome mm ref t hmm)
      rw [hd]
      exact ⟨_, rfl⟩
  · rw [if_neg hg]
    exact ⟨_, rfl⟩

/-- **The planner answers** for every group of well-formed decisions as soon as
`min_match_len ≥ HASHING_STEP` (= 4; C09 `encode_total`): the hypothesis "the writer answers" of the
`archOf`-level theorems can be replaced by this inequality. -/
theorem planned_of_minMatch (cfg : Cfg) (inp : List Writer.Sample) (dec : Decisions) (hok : DecOK cfg inp dec)
    (hmm : Ragc.Gen.lzHashingStep ≤ cfg.minMatch) : Planned cfg inp dec := by
  intro G hG
  obtain ⟨_, hne, _, hmem⟩ := hok.groups G hG
  obtain ⟨datas, hdat⟩ := mapM_isSome (lookup3 (storedAll cfg.k inp dec)) G.members (by
    intro r hr
    obtain ⟨j, hj⟩ := List.mem_iff_getElem?.mp hr
    obtain ⟨d, hl, _, _⟩ := hmem (r, j) (List.mem_zipIdx_iff_getElem?.mpr hj)
    exact stored_of_piece cfg inp dec hok r d hl)
  have hdl := (mapM_option_spec _ _ _ hdat).1
  have hdne : datas ≠ [] := by
    intro hc
    rw [hc] at hdl
    exact hne (List.eq_nil_of_length_eq_zero hdl.symm)
  obtain ⟨P, hP⟩ := planGroup_isSome cfg.minMatch G datas hmm hdne
  exact ⟨P, by simp only [planOf, hdat, Option.bind_some, hP]⟩

/-- **C08's well-formedness holds for every written archive**: one contig table per sample name. -/
theorem archOf_wf (cfg : Cfg) (inp : List Writer.Sample) (dec : Decisions) (h : DecisionsOK cfg inp dec) :
    WF (archOf cfg inp dec) := by
  rw [WF, archOf, table_archOfViews]
  simp [archOfViews, tablesOf, List.length_zipWith, (decOK_of cfg inp dec h).shape]

theorem idsOf_plans (cfg : Cfg) (zc : Nat → List Nat → List Nat) (stored : List (List (List (List Nat))))
    (gs : List GroupDec) (Ps : List GroupPlan) (h : gs.mapM (planOf cfg stored) = some Ps) (g : Nat) :
    idsOf (List.zipWith (fun G P => storeGroup cfg zc G.tuples P) gs Ps) g
      = ((((gs.find? (fun G => G.id == g)).bind (planOf cfg stored))).map (·.ids)).getD [] := by
  induction gs generalizing Ps with
  | nil => cases h; rfl
  | cons G gs ih =>
    rw [List.mapM_cons] at h
    obtain ⟨P, hp, h⟩ := Option.bind_eq_some_iff.mp h
    obtain ⟨Ps', hr, h⟩ := Option.bind_eq_some_iff.mp h
    cases h
    have hid : (storeGroup cfg zc G.tuples P).id = G.id := by
      obtain ⟨datas, _, hplan⟩ := Option.bind_eq_some_iff.mp hp
      exact planGroup_spec_id cfg.minMatch G datas P hplan
    rw [List.zipWith_cons_cons, idsOf, List.find?_cons, List.find?_cons, hid]
    cases G.id == g with
    | true => rw [Option.bind_some, hp]; rfl
    | false => exact ih Ps' hr

/-- The descriptors of `archOf` are the ones `Writer.catalogue` registers. -/
theorem descOf_eq (cfg : Cfg) (inp : List Writer.Sample) (dec : Decisions) (zc : Nat → List Nat → List Nat)
    (outs : List GroupOut) (hw : writeGroups cfg zc (storedAll cfg.k inp dec) dec.groups = some outs)
    (d : PieceDec) : descOf outs d = descOfP cfg inp dec d := by
  obtain ⟨Ps, hPs, houts⟩ := writeGroups_plans cfg zc _ _ _ hw
  unfold descOf descOfP idsOfPlans planAt Writer.findGroup
  rw [houts, idsOf_plans cfg zc _ dec.groups Ps hPs d.group]

theorem view_eq (cfg : Cfg) (inp : List Writer.Sample) (dec : Decisions) (gds : Array Ragc.Agc3.GroupD)
    (hnd : (dec.groups.map (·.id)).Nodup) (hpl : Planned cfg inp dec)
    (hG : GroupsDecoded cfg inp dec gds) : viewOfGds gds = plansView cfg inp dec := by
  funext g
  unfold viewOfGds plansView planAt
  cases hf : Writer.findGroup dec g with
  | some G =>
    have hGin : G ∈ dec.groups := List.mem_of_find?_eq_some hf
    have hGid : G.id = g := by simpa using List.find?_some hf
    obtain ⟨P, hP⟩ := hpl G hGin
    obtain ⟨datas, hdat, hplan⟩ := Option.bind_eq_some_iff.mp hP
    obtain ⟨GD, hfind, hm⟩ := hG.find G hGin datas P hdat hplan
    rw [hGid] at hfind
    simp only [hfind, Option.map_some, Option.bind_some, hP, hm.ref, hm.packs]
  | none =>
    simp only [Option.bind_none, Option.map_none]
    cases hfg : Ragc.Agc3.findGroup gds g with
    | none => rfl
    | some GD =>
      exfalso
      unfold Ragc.Agc3.findGroup at hfg
      have hid : GD.id = g := by simpa using Array.find?_some hfg
      have hmem : GD ∈ gds.toList := Array.mem_toList_iff.mpr (Array.mem_of_find?_eq_some hfg)
      obtain ⟨G, hGin, hGid⟩ := List.mem_map.mp (hG.ids GD hmem)
      obtain ⟨i, hi, rfl⟩ := List.getElem_of_mem hGin
      have := find?_key_getElem (fun G : GroupDec => G.id) dec.groups hnd i hi
      rw [hGid, hid] at this
      rw [Writer.findGroup, this] at hf
      cases hf

/-- On `archOf`, the handle's loader returns `x` for the descriptor `(g, id, _, _)` whenever the plan
of group `g` holds `x` at `id` (`SegAt`: reference / LZ entry decoding against it / raw entry). -/
theorem segPure_plan (cfg : Cfg) (inp : List Writer.Sample) (dec : Decisions) (P : GroupPlan) (id : Nat)
    (x : List Nat) (rev : Bool) (len : Nat) (hp : planAt cfg inp dec P.id = some P)
    (h : SegAt cfg.minMatch P id x) :
    segPure (archOf cfg inp dec) ⟨P.id, id, rev, len⟩ = .ok x := by
  unfold SegAt at h
  unfold segPure archOf archOfViews plansView fetchV
  simp only [hp, Option.map_some]
  by_cases hg : P.id ≥ 16
  · rw [if_pos hg] at h
    obtain ⟨ref, href, h⟩ := h
    simp only [hg, if_true, href]
    rcases h with ⟨h0, hx⟩ | ⟨h0, bytes, he, hd⟩
    · simp only [h0, if_true, hx]
    · simp only [h0, if_false, toArr_entry, he, hd]
  · rw [if_neg hg] at h
    simp only [hg, if_false, h.1, toArr_entry, h.2]

/-- **Every registered piece loads.** The descriptor the writer registers for piece `j` of contig `c`
of sample `s` loads, on `archOf`, the stored (oriented) form of that piece, and its `raw_length` is
the piece's length. (`read_write_segments` at the level of the handle model.) -/
theorem piece_loads (cfg : Cfg) (inp : List Writer.Sample) (dec : Decisions) (hok : DecOK cfg inp dec)
    (hcodes : codesOK inp) (hpl : Planned cfg inp dec)
    (s c j : Nat) (smp : Writer.Sample) (ctg : Writer.Contig) (dcs : List (List PieceDec)) (ds : List PieceDec)
    (d : PieceDec) (p : List Nat)
    (h1 : inp[s]? = some smp) (h2 : smp.contigs[c]? = some ctg) (h3 : dec.pieces[s]? = some dcs)
    (h4 : dcs[c]? = some ds) (h5 : ds[j]? = some d)
    (h6 : (cutPieces cfg.k ctg.data (ds.map (·.len)))[j]? = some p) :
    segPure (archOf cfg inp dec) (descOfP cfg inp dec d) = .ok (Writer.orient d.rev p) ∧ d.len = p.length := by
  have hC := (hok.samples _ (mem_zip_of_get _ _ _ _ _ h1 h3)).contigs _ (mem_zip_of_get _ _ _ _ _ h2 h4)
  refine ⟨?_, ?_⟩
  · obtain ⟨G, hfG, hGin, hGid, hall⟩ := piece_slot cfg inp dec hok hcodes s c j dcs ds d h3 h4 h5
    obtain ⟨P, hP⟩ := hpl G hGin
    obtain ⟨datas, hdat, hplan⟩ := Option.bind_eq_some_iff.mp hP
    obtain ⟨hs, hPid, _, hlook, _, hseg⟩ := hall datas P hdat hplan
    have hdata : datas[d.slot] = Writer.orient d.rev p := by
      rw [stored_lookup cfg.k inp dec s c j smp ctg dcs ds d p h1 h2 h3 h4 h5 h6] at hlook
      exact (Option.some.inj hlook).symm
    have hat : planAt cfg inp dec d.group = some P := by
      rw [planAt, hfG]; exact hP
    have hg : P.id = d.group := hPid.trans hGid
    have hd : descOfP cfg inp dec d = ⟨P.id, P.ids.getD d.slot 0, d.rev, d.len⟩ := by
      rw [descOfP, idsOfPlans, hat, hg]; rfl
    rw [hd, ← hdata]
    exact segPure_plan cfg inp dec P _ _ _ _ (hg ▸ hat) hseg
  · have := congrArg (·[j]?) (cutPieces_lengths cfg.k ctg.data _ hC.tiles)
    simpa [h5, h6] using this.symm

/-- **The views of a written contig are the writer's pieces.** For every contig of every sample:
every descriptor the writer registers for it loads on `archOf`, and the loaded, re-oriented views are
the pieces `cutPieces`, each with `raw_length` = its length; the pieces tile the contig. -/
theorem contig_views (cfg : Cfg) (inp : List Writer.Sample) (dec : Decisions) (hok : DecOK cfg inp dec)
    (hcodes : codesOK inp) (hpl : Planned cfg inp dec)
    (s c : Nat) (smp : Writer.Sample) (ctg : Writer.Contig) (dcs : List (List PieceDec)) (ds : List PieceDec)
    (h1 : inp[s]? = some smp) (h2 : smp.contigs[c]? = some ctg) (h3 : dec.pieces[s]? = some dcs)
    (h4 : dcs[c]? = some ds) :
    Carries (archOf cfg inp dec) cfg.k (ds.map (descOfP cfg inp dec)) ctg.data := by
  have hC := (hok.samples _ (mem_zip_of_get _ _ _ _ _ h1 h3)).contigs _ (mem_zip_of_get _ _ _ _ _ h2 h4)
  have hplen : (cutPieces cfg.k ctg.data (ds.map (·.len))).length = ds.length := by
    rw [cutPieces_length, List.length_map]
  have hload := fun j (hj : j < ds.length) =>
    piece_loads cfg inp dec hok hcodes hpl s c j smp ctg dcs ds _ _ h1 h2 h3 h4
      (List.getElem?_eq_getElem hj) (List.getElem?_eq_getElem (hplen ▸ hj))
  have hv : (ds.map (descOfP cfg inp dec)).map (viewOf (archOf cfg inp dec))
      = (cutPieces cfg.k ctg.data (ds.map (·.len))).map fun p => (⟨p.length, p⟩ : Ragc.Range.Seg) := by
    apply List.ext_getElem (by simp only [List.length_map, hplen])
    intro j hj _
    simp only [List.length_map] at hj
    obtain ⟨hl, hr⟩ := hload j hj
    simp only [List.getElem_map, viewOf, dataOf_ok _ _ _ hl]
    rw [show (descOfP cfg inp dec ds[j]).rawLen = ds[j].len from rfl, hr]
    -- `ReaderState.orient d` and `Writer.orient d.rev` both unfold to `Roundtrip.orient d.rev`
    exact congrArg _ (Ragc.Roundtrip.orient_involutive ds[j].rev _)
  have ht := views_of_tiles cfg.k ctg.data _ (cutPieces_tiling cfg.k ctg.data _ hC.tiles)
  refine ⟨fun d hd => ?_, hv ▸ ht.1, hv ▸ ht.2, fun v hv' => ?_, hC.len⟩
  · obtain ⟨j, hj, rfl⟩ := List.getElem_of_mem hd
    simp only [List.length_map] at hj
    rw [List.getElem_map]
    exact ⟨_, (hload j hj).1⟩
  · rw [hv] at hv'
    obtain ⟨p, hp, rfl⟩ := List.mem_map.mp hv'
    have hmem : p.length ∈ ds.map (·.len) :=
      cutPieces_lengths cfg.k ctg.data _ hC.tiles ▸ List.mem_map.mpr ⟨p, hp, rfl⟩
    exact Nat.lt_of_le_of_lt (tilesB_le cfg.k ctg.data.length _ hC.tiles _ hmem) hC.len

def contigListOf (cfg : Cfg) (inp : List Writer.Sample) (dec : Decisions) (smp : Writer.Sample)
    (dcs : List (List PieceDec)) : List Ragc.Details.Contig :=
  toContigs (tableOfP cfg inp dec smp.contigs dcs)

theorem contigListOf_get (cfg : Cfg) (inp : List Writer.Sample) (dec : Decisions) (smp : Writer.Sample)
    (dcs : List (List PieceDec)) (c : Nat) (ctg : Writer.Contig) (ds : List PieceDec)
    (h2 : smp.contigs[c]? = some ctg) (h4 : dcs[c]? = some ds) :
    (contigListOf cfg inp dec smp dcs)[c]? = some ⟨ctg.name, ds.map (descOfP cfg inp dec)⟩ := by
  unfold contigListOf toContigs tableOfP
  rw [List.getElem?_map, zipWith_get _ _ _ c ctg ds h2 h4]
  rfl

theorem contigListOf_names (cfg : Cfg) (inp : List Writer.Sample) (dec : Decisions) (smp : Writer.Sample)
    (dcs : List (List PieceDec)) (hsh : dcs.length = smp.contigs.length) :
    (contigListOf cfg inp dec smp dcs).map Ragc.Details.Contig.name = smp.contigs.map (·.name) := by
  unfold contigListOf toContigs tableOfP
  rw [List.map_map, List.map_zipWith]
  exact zipWith_fst (fun c : Writer.Contig => c.name) _ _ hsh

theorem sample_index (cfg : Cfg) (inp : List Writer.Sample) (dec : Decisions) (hok : DecOK cfg inp dec)
    (smp : Writer.Sample) (hs : smp ∈ inp) :
    ∃ (s : Nat) (dcs : List (List PieceDec)), inp[s]? = some smp ∧ dec.pieces[s]? = some dcs ∧ dcs.length = smp.contigs.length := by
  obtain ⟨s, hi⟩ := List.mem_iff_getElem?.mp hs
  have hil : s < dec.pieces.length := by rw [hok.shape]; exact (List.getElem?_eq_some_iff.mp hi).1
  have hp : dec.pieces[s]? = some dec.pieces[s] := List.getElem?_eq_getElem hil
  exact ⟨s, _, hi, hp, (hok.samples _ (mem_zip_of_get _ _ _ _ _ hi hp)).shape⟩

theorem contigsOf_archOf (cfg : Cfg) (inp : List Writer.Sample) (dec : Decisions)
    (hnd : (inp.map (·.name)).Nodup) (s : Nat) (smp : Writer.Sample) (dcs : List (List PieceDec))
    (h1 : inp[s]? = some smp) (h3 : dec.pieces[s]? = some dcs) :
    ReaderState.contigsOf (archOf cfg inp dec).samples (table (archOf cfg inp dec)) smp.name
      = some (contigListOf cfg inp dec smp dcs) := by
  have hl : lookup (inp.map (·.name)) smp.name = some s :=
    lookup_nodup _ s smp.name hnd (by rw [List.getElem?_map, h1]; rfl)
  have ht : ((tablesOf cfg inp dec).map toContigs)[s]? = some (contigListOf cfg inp dec smp dcs) := by
    rw [tablesOf, List.getElem?_map, zipWith_get _ _ _ s smp dcs h1 h3]
    rfl
  rw [archOf, table_archOfViews, ReaderState.contigsOf, show (archOfViews _ _ _ _ _).samples = inp.map (·.name) from rfl, hl,
    Option.map_some, List.getD_eq_getElem?_getD, ht]
  rfl

/-- **A contig of the input on `archOf`**: the descriptor lookup by names finds descriptors that carry
it. C07's `handle_range_eq` / `handle_length_eq` conclude from this. -/
theorem written_contig (cfg : Cfg) (inp : List Writer.Sample) (dec : Decisions)
    (hok : DecOK cfg inp dec) (hcodes : codesOK inp) (hpl : Planned cfg inp dec) (hnd : NamesDistinct inp)
    (smp : Writer.Sample) (hs : smp ∈ inp) (ctg : Writer.Contig) (hc : ctg ∈ smp.contigs) :
    ∃ segs, contigDesc (archOf cfg inp dec).samples (table (archOf cfg inp dec)) smp.name ctg.name = some segs ∧
      Carries (archOf cfg inp dec) cfg.k segs ctg.data := by
  obtain ⟨s, dcs, h1, h3, hsh⟩ := sample_index cfg inp dec hok smp hs
  obtain ⟨c, h2⟩ := List.mem_iff_getElem?.mp hc
  have hcl : c < dcs.length := hsh ▸ (List.getElem?_eq_some_iff.mp h2).1
  have h4 : dcs[c]? = some dcs[c] := List.getElem?_eq_getElem hcl
  refine ⟨_, ?_, contig_views cfg inp dec hok hcodes hpl s c smp ctg dcs _ h1 h2 h3 h4⟩
  -- the first contig so called is this one, the names being distinct
  have hnc : ((contigListOf cfg inp dec smp dcs).map Ragc.Details.Contig.name).Nodup := by
    rw [contigListOf_names cfg inp dec smp dcs hsh]
    exact hnd.2 smp hs
  rw [contigDesc, contigsOf_archOf cfg inp dec hnd.1 s smp dcs h1 h3]
  exact congrArg (Option.map Contig.segs)
    (findContig_nodup _ c _ hnc (contigListOf_get cfg inp dec smp dcs c ctg _ h2 h4))

theorem answer_getContig_written (cfg : Cfg) (inp : List Writer.Sample) (dec : Decisions)
    (hok : DecOK cfg inp dec) (hcodes : codesOK inp) (hpl : Planned cfg inp dec) (hnd : NamesDistinct inp)
    (smp : Writer.Sample) (hs : smp ∈ inp) (ctg : Writer.Contig) (hc : ctg ∈ smp.contigs) :
    answer (archOf cfg inp dec) (.getContig smp.name ctg.name) = .ok (.bases ctg.data) := by
  obtain ⟨segs, hd, hc⟩ := written_contig cfg inp dec hok hcodes hpl hnd smp hs ctg hc
  rw [answer_getContig _ _ _ _ hd hc.loads, show (archOf cfg inp dec).k = cfg.k from rfl,
    Ragc.Range.reconstruct_eq_full _ _ hc.wf.2, hc.full]
  rfl

theorem answerSample_written (cfg : Cfg) (inp : List Writer.Sample) (dec : Decisions)
    (hok : DecOK cfg inp dec) (hcodes : codesOK inp) (hpl : Planned cfg inp dec) (hnd : NamesDistinct inp)
    (smp : Writer.Sample) (hs : smp ∈ inp) :
    answerSample (archOf cfg inp dec) smp.name = .ok (smp.contigs.map fun c => (c.name, c.data)) := by
  obtain ⟨s, dcs, h1, h3, hsh⟩ := sample_index cfg inp dec hok smp hs
  rw [answerSample, contigsOf_archOf cfg inp dec hnd.1 s smp dcs h1 h3]
  simp only []
  rw [sampleLoop_pure _ _ _ [] (fun x hx => by
    obtain ⟨i, hi⟩ := List.mem_iff_getElem?.mp hx
    rw [contigListOf, toContigs, tableOfP, List.getElem?_map] at hi
    obtain ⟨p, hp, rfl⟩ := Option.map_eq_some_iff.mp hi
    obtain ⟨ctg, ds, h2, h4, rfl⟩ := zipWith_get_inv _ _ _ i p hp
    have hc := contig_views cfg inp dec hok hcodes hpl s i smp ctg dcs ds h1 h2 h3 h4
    exact ⟨hc.loads, hc.wf.2⟩), List.nil_append, contigListOf, toContigs, tableOfP, List.map_map]
  -- entry `i` of the sample's table carries the name of contig `i` and views whose full extraction is its data
  refine congrArg _ (map_zipWith_left _ _ (fun c => (c.name, c.data)) _ _ hsh fun p hp => ?_)
  obtain ⟨i, hi⟩ := List.mem_iff_getElem?.mp hp
  obtain ⟨h2, h4⟩ := List.getElem?_zip_eq_some.mp hi
  exact congrArg (Prod.mk p.1.name)
    (contig_views cfg inp dec hok hcodes hpl s i smp p.1 dcs p.2 h1 h2 h3 h4).full

/-- **"Every catalogue and extraction query returns the input's data"** on handle state `st` of the
archive content `A`:
* `list_samples` = the sample names of `inp`, in order;
* for every sample of `inp`: `list_contigs` = its contig names in order; `get_sample` = all its
  contigs (name, bases) in order; `write_sample_fasta` = the FASTA text of these; `get_contig` of each
  of its contigs = `ok` of exactly that contig's bases; `get_contig` with a contig name the sample
  does not have = `err`;
* for a sample name `inp` does not have: `list_contigs`, `get_sample`, `get_contig` = `err`.
(Range and length queries: `Props.C07.range_on_written_archive`.) -/
def AnswersInput (A : Arch) (inp : List Writer.Sample) (st : State) : Prop :=
  (step A st .listSamples).2 = .ok (.names (inp.map (·.name))) ∧
  (∀ smp ∈ inp,
    (step A st (.listContigs smp.name)).2 = .ok (.names (smp.contigs.map (·.name))) ∧
    (step A st (.getSample smp.name)).2 = .ok (.sample (smp.contigs.map fun c => (c.name, c.data))) ∧
    (step A st (.writeSampleFasta smp.name)).2
      = .ok (.file (fastaBytes (smp.contigs.map fun c => (c.name, c.data)))) ∧
    (∀ ctg ∈ smp.contigs, (step A st (.getContig smp.name ctg.name)).2 = .ok (.bases ctg.data)) ∧
    (∀ c, c ∉ smp.contigs.map (·.name) → (step A st (.getContig smp.name c)).2 = .err)) ∧
  (∀ s, s ∉ inp.map (·.name) →
    (step A st (.listContigs s)).2 = .err ∧ (step A st (.getSample s)).2 = .err ∧
    ∀ c, (step A st (.getContig s c)).2 = .err)

/-! ## the small concrete input of `Props.C01.read_write`'s example (shared by the non-vacuity
examples of `Props/C07.lean` and `Props/C08.lean`) -/

namespace Ex
/-- `k = 3`, `min_match_len = 10`. Sample `A` (= `[65]`) has a contig `c` of 10 symbols cut into two
3-overlapping pieces and a contig `d` of 3 symbols (with an `N`); sample `B` has a contig `c` that
differs from `A`'s in one base. LZ group 16 holds the first piece of `A/c` (its reference) and the
first piece of `B/c` (a real delta); raw group 0 holds the other three pieces, one of them stored
reverse-complemented. -/
def cfg : Ragc.Writer.Cfg := ⟨3, 10, 10, 17⟩
def inp : List Ragc.Writer.Sample :=
  [⟨[65], [⟨[99], [0, 1, 2, 3, 0, 1, 2, 3, 0, 1]⟩, ⟨[100], [2, 4, 1]⟩]⟩,
   ⟨[66], [⟨[99], [0, 1, 2, 2, 0, 1, 2, 3, 0, 1]⟩]⟩]
def dec : Ragc.Writer.Decisions :=
  ⟨[[[⟨6, 16, 0, false⟩, ⟨7, 0, 0, true⟩], [⟨3, 0, 1, false⟩]], [[⟨6, 16, 1, false⟩, ⟨7, 0, 2, false⟩]]],
   [⟨16, false, [(0, 0, 0), (1, 0, 0)]⟩, ⟨0, false, [(0, 0, 1), (0, 1, 0), (1, 0, 1)]⟩]⟩
/-- toy ZSTD with the two C12 facts -/
def zc : Nat → List Nat → List Nat := fun l x => l :: x
def zd : List Nat → Option (List Nat) := fun c => some c.tail

theorem hyps : Ragc.Writer.DecisionsOK cfg inp dec ∧ Ragc.Writer.codesOK inp ∧ NamesDistinct inp ∧
    (∀ l x, zd (zc l x) = some x) ∧ (∀ l x, zc l x = [] → x = []) :=
  ⟨by decide +kernel, by decide +kernel, by decide +kernel, fun _ _ => rfl, fun _ _ h => by simp [zc] at h⟩

/-- The writer answers on this input: closed evaluation of the executable model. -/
theorem written : ∃ bs, Ragc.Writer.writeArchive cfg inp dec zc = some bs :=
  Option.isSome_iff_exists.mp (by decide +kernel)

/-- a history mixing misses, hits, ranges and full-table queries -/
def hist : List Op :=
  [.getSample [90], .getContig [66] [99], .listContigs [65], .contigRange [65] [99] 2 9, .allSegments,
   .referenceSegment 16, .getContig [65] [120], .getSample [65]]
end Ex

end Written

end Ragc.ReaderLink
