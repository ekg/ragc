import RagcModel.Model.Agc3
import RagcModel.Model.Packs
/-!
Helper lemmas for C02 (`Props/C02.lean`): the decoder's pack splitter inverts the writer's pack
layout; the id / flush bookkeeping of `flush_pack_compress_only` fills packs of 50 in id order
(invariant `Inv` of the state machine, then the facts about a whole run from `PState.init` to `finish`).
-/
namespace Ragc.Packs
open Ragc.Agc3

theorem splitPackGo_entry (e rest cur : List Nat) (acc : Array (List Nat)) (h : 255 ∉ e) :
    splitPackGo (e ++ 255 :: rest) cur acc = splitPackGo rest [] (acc.push (cur.reverse ++ e)) := by
  induction e generalizing cur with
  | nil => simp [splitPackGo]
  | cons b e ih =>
    have hb : b ≠ 255 := by intro hb; exact h (by simp [hb])
    have he : 255 ∉ e := by intro he; exact h (by simp [he])
    simp only [List.cons_append, splitPackGo, hb, if_false]
    rw [ih _ he]
    simp

theorem splitPackGo_packEntries (es : List (List Nat)) (acc : Array (List Nat))
    (h : ∀ e ∈ es, 255 ∉ e) :
    splitPackGo (packEntries es) [] acc = (acc ++ es.toArray, []) := by
  induction es generalizing acc with
  | nil => simp [packEntries, splitPackGo]
  | cons e es ih =>
    have : packEntries (e :: es) = e ++ 255 :: packEntries es := by
      simp [packEntries, sep]
    rw [this, splitPackGo_entry e _ [] acc (h e (by simp)), ih _ fun x hx => h x (by simp [hx])]
    simp

theorem splitPack_packEntries (es : List (List Nat)) (h : ∀ e ∈ es, 255 ∉ e) :
    splitPack (packEntries es) = (es.toArray, []) := by
  unfold splitPack
  rw [splitPackGo_packEntries es #[] h]
  simp

/-- All packs but the last hold exactly `n` entries, the last one between 1 and `n`. -/
def Filled (n : Nat) : List (List α) → Prop
  | [] => True
  | [p] => 1 ≤ p.length ∧ p.length ≤ n
  | p :: q :: r => p.length = n ∧ Filled n (q :: r)

theorem filled_iff {α : Type} (n : Nat) (packs : List (List α)) :
    Filled n packs ↔ (∀ q ∈ packs.dropLast, q.length = n) ∧
      ∀ p, packs.getLast? = some p → 1 ≤ p.length ∧ p.length ≤ n := by
  induction packs with
  | nil => simp [Filled]
  | cons p ps ih =>
    cases ps with
    | nil => simp [Filled]
    | cons q r =>
      simp only [Filled, ih, List.dropLast_cons_cons, List.mem_cons, forall_eq_or_imp,
        List.getLast?_cons_cons, and_assoc]

theorem filled_nonfinal {α : Type} (n : Nat) (packs : List (List α)) (p : Nat) (hf : Filled n packs)
    (hp : p + 1 < packs.length) : ∃ pk, packs[p]? = some pk ∧ pk.length = n := by
  have hd : p < packs.dropLast.length := List.length_dropLast ▸ Nat.lt_sub_of_add_lt hp
  refine ⟨packs[p]'(Nat.lt_of_succ_lt hp), List.getElem?_eq_getElem _, ?_⟩
  rw [← List.getElem_dropLast hd]
  exact ((filled_iff n packs).mp hf).1 _ (List.getElem_mem hd)

theorem filled_last {α : Type} (n : Nat) (packs : List (List α)) (p : Nat) (pk : List α)
    (hf : Filled n packs) (hp : p + 1 = packs.length) (hpk : packs[p]? = some pk) :
    1 ≤ pk.length ∧ pk.length ≤ n :=
  ((filled_iff n packs).mp hf).2 pk (by rw [List.getLast?_eq_getElem?, ← hp]; exact hpk)

theorem filled_index {α : Type} (n : Nat) (hn : 0 < n) :
    ∀ (packs : List (List α)) (i : Nat), Filled n packs → i < packs.flatten.length →
      (packs[i / n]?).bind (·[i % n]?) = packs.flatten[i]? := by
  intro packs
  induction packs with
  | nil => intro i _ hi; exact absurd hi (Nat.not_lt_zero i)
  | cons p ps ih =>
    intro i hf hi
    cases ps with
    | nil =>
      rw [List.flatten_cons, List.flatten_nil, List.append_nil] at hi ⊢
      have hlt : i < n := Nat.lt_of_lt_of_le hi hf.2
      rw [Nat.div_eq_of_lt hlt, Nat.mod_eq_of_lt hlt]
      rfl
    | cons q r =>
      obtain ⟨hp, hrest⟩ := hf
      rw [List.flatten_cons]
      by_cases hlt : i < n
      · rw [Nat.div_eq_of_lt hlt, Nat.mod_eq_of_lt hlt, List.getElem?_append_left (hp ▸ hlt)]
        rfl
      · have hge : n ≤ i := Nat.le_of_not_lt hlt
        rw [Nat.div_eq_sub_div hn hge, Nat.mod_eq_sub_mod hge, List.getElem?_cons_succ,
          List.getElem?_append_right (hp ▸ hge), hp]
        apply ih (i - n) hrest
        rw [List.flatten_cons, List.length_append, hp] at hi
        exact Nat.sub_lt_left_of_lt_add hge hi

/-- id of an entry = its position in the stream of entries, plus one for LZ groups (whose id 0 is
the reference and is not in the delta stream). -/
def off (lz : Bool) : Nat := if lz then 1 else 0

/-- Everything the stream will contain for the entries handed out so far: emitted packs, then the
placeholder if still due, then the pending deltas. -/
def allEntries (lz : Bool) (st : PState) : List (List Nat) :=
  st.packs.flatten ++ (pre lz st ++ st.pending)

structure Inv (lz : Bool) (st : PState) : Prop where
  full : ∀ p ∈ st.packs, p.length = 50
  room : (pre lz st ++ st.pending).length < 50
  next : max st.written 1 = (allEntries lz st).length + off lz
  ids : st.pendingIds = List.range' ((st.packs.flatten ++ pre lz st).length + off lz) st.pending.length
  started : st.written ≠ 0 → st.pending ≠ [] ∨ st.phWritten = true
  fresh : st.phWritten = false → st.packs = []
  flushed : st.phWritten = true → st.packs ≠ []

theorem inv_init (lz : Bool) : Inv lz PState.init where
  full := fun _ h => nomatch h
  room := by cases lz <;> decide
  next := by cases lz <;> rfl
  ids := by cases lz <;> rfl
  started := fun h => absurd rfl h
  fresh := fun _ => rfl
  flushed := fun h => nomatch h

theorem pre_length (lz : Bool) (st : PState) :
    (pre lz st).length = (if !lz && !st.phWritten then 1 else 0) := by
  unfold pre; split <;> rfl

theorem threshold_eq (lz : Bool) (st : PState) : threshold lz st + (pre lz st).length = 50 := by
  unfold threshold pre; split <;> rfl

theorem pre_of_written (lz : Bool) {st : PState} (h : st.phWritten = true) : pre lz st = [] := by
  unfold pre; rw [h, Bool.not_true, Bool.and_false]; rfl

theorem allEntries_length (lz : Bool) (st : PState) :
    (allEntries lz st).length = (st.packs.flatten ++ pre lz st).length + st.pending.length := by
  unfold allEntries
  rw [← List.append_assoc, List.length_append]

/-- No entry gets id 0: LZ ids count from 1, and the stream of a raw group begins with the
placeholder — still due, or inside the first emitted pack. -/
theorem Inv.base_pos {lz : Bool} {st : PState} (h : Inv lz st) :
    1 ≤ (st.packs.flatten ++ pre lz st).length + off lz := by
  cases lz with
  | true => exact Nat.le_add_left _ _
  | false =>
    by_cases hp : st.phWritten = true
    · obtain ⟨q, qs, hq⟩ := List.exists_cons_of_ne_nil (h.flushed hp)
      have := h.full q (by rw [hq]; exact List.mem_cons_self)
      rw [hq, List.flatten_cons, List.append_assoc, List.length_append, this]
      exact Nat.le_trans (Nat.le_trans (by decide) (Nat.le_add_right 50 _)) (Nat.le_add_right _ _)
    · have : (pre false st).length = 1 := by rw [pre_length, Bool.not_eq_true _ |>.mp hp]; rfl
      rw [List.length_append, this]
      exact Nat.le_trans (Nat.le_add_left 1 _) (Nat.le_add_right _ _)

theorem addNew_flush (lz : Bool) (st : PState) (d : List Nat)
    (h : st.pending.length + 1 = threshold lz st) :
    addNew lz st d = (⟨[], [], max st.written 1 + 1, true,
      st.packs ++ [pre lz st ++ (st.pending ++ [d])]⟩, max st.written 1) := by
  unfold addNew
  simp only [List.length_append, List.length_singleton, h, if_true]

theorem addNew_keep (lz : Bool) (st : PState) (d : List Nat)
    (h : st.pending.length + 1 ≠ threshold lz st) :
    addNew lz st d = (⟨st.pending ++ [d], st.pendingIds ++ [max st.written 1], max st.written 1 + 1,
      st.phWritten, st.packs⟩, max st.written 1) := by
  unfold addNew
  simp only [List.length_append, List.length_singleton, h, if_false]

theorem addNew_spec (lz : Bool) (st : PState) (d : List Nat) (h : Inv lz st) :
    Inv lz (addNew lz st d).1 ∧
      allEntries lz (addNew lz st d).1 = allEntries lz st ++ [d] ∧
      (addNew lz st d).2 = (allEntries lz st).length + off lz := by
  have hthr := threshold_eq lz st
  have hroom := h.room
  have hnext := h.next
  have hmax : ∀ W, max (W + 1) 1 = W + 1 := fun W => Nat.max_eq_left (Nat.le_add_left 1 W)
  rw [allEntries_length] at hnext
  rw [List.length_append] at hroom
  by_cases hfl : st.pending.length + 1 = threshold lz st
  · -- flush: the new pack is `pre ++ pending ++ [d]` (50 entries by `threshold_eq`), nothing is pending,
    -- the placeholder is written; the entry stream only gains `d`
    rw [addNew_flush lz st d hfl]
    generalize max st.written 1 = W at hnext ⊢
    have hpre : ∀ (c : Nat) (e : List (List (List Nat))), pre lz ⟨[], [], c, true, e⟩ = [] :=
      fun _ _ => pre_of_written lz rfl
    refine ⟨⟨?_, ?_, ?_, rfl, fun _ => Or.inr rfl, fun hc => (nomatch hc), fun _ => ?_⟩, ?_, ?_⟩
    · intro p hp
      rcases List.mem_append.mp hp with hp | hp
      · exact h.full p hp
      · rw [List.mem_singleton.mp hp, List.length_append, List.length_append, List.length_singleton, hfl,
          Nat.add_comm]
        exact hthr
    · rw [hpre]
      exact Nat.zero_lt_succ _
    · simp only [allEntries_length, hpre, hmax, List.flatten_append, List.flatten_cons, List.flatten_nil,
        List.length_append, List.length_singleton, List.length_nil, Nat.add_zero] at hnext ⊢
      rw [hnext, Nat.add_right_comm _ (off lz) 1, Nat.add_assoc _ _ 1, Nat.add_assoc _ _ (_ + 1)]
    · exact List.append_ne_nil_of_right_ne_nil _ (List.cons_ne_nil _ _)
    · simp only [allEntries, hpre, List.flatten_append, List.flatten_cons, List.flatten_nil,
        List.append_nil, List.append_assoc]
    · rw [allEntries_length]; exact hnext
  · -- keep: only `pending` and `pendingIds` grow, by `d` and its id
    rw [addNew_keep lz st d hfl]
    generalize max st.written 1 = W at hnext ⊢
    have hpre : ∀ (a : List (List Nat)) (b : List Nat) (c : Nat),
        pre lz ⟨a, b, c, st.phWritten, st.packs⟩ = pre lz st := fun _ _ _ => rfl
    refine ⟨⟨h.full, ?_, ?_, ?_, fun _ => Or.inl (List.append_ne_nil_of_right_ne_nil _ (List.cons_ne_nil _ _)),
      h.fresh, h.flushed⟩, ?_, ?_⟩
    · simp only [hpre, List.length_append, List.length_singleton]
      exact Nat.lt_of_le_of_ne hroom fun hc =>
        hfl (Nat.add_left_cancel (hc.trans (hthr.symm.trans (Nat.add_comm _ _))))
    · simp only [allEntries_length, hpre, hmax, List.length_append, List.length_singleton] at hnext ⊢
      rw [hnext, Nat.add_right_comm _ (off lz) 1]
      rfl
    · simp only [hpre, List.length_append, List.length_singleton, List.range'_1_concat, hnext]
      rw [h.ids, List.length_append, Nat.add_right_comm _ (off lz)]
    · simp only [allEntries, hpre, List.append_assoc]
    · rw [allEntries_length]; exact hnext

/-- What an id means once the stream is complete: 0 = "same as the reference" (LZ groups only),
otherwise the entry at position `id - off` of the entry stream is the delta. This is the disjunction
`run_addressing` (and `Props.C02.packs_addressing`) states, before positions become pack addresses. -/
def IdOK (lz : Bool) (all : List (List Nat)) (id : Nat) (d : List Nat) : Prop :=
  (lz = true ∧ id = 0 ∧ d = []) ∨ (1 ≤ id ∧ off lz ≤ id ∧ all[id - off lz]? = some d)

theorem IdOK.at {lz : Bool} {all : List (List Nat)} {i : Nat} {d : List Nat} (hi : all[i]? = some d)
    (hpos : 1 ≤ i + off lz) : IdOK lz all (i + off lz) d :=
  Or.inr ⟨hpos, Nat.le_add_left _ _, by rw [Nat.add_sub_cancel]; exact hi⟩

theorem IdOK.mono {lz : Bool} {all suffix : List (List Nat)} {id : Nat} {d : List Nat}
    (h : IdOK lz all id d) : IdOK lz (all ++ suffix) id d := by
  rcases h with h | ⟨h1, h2, h3⟩
  · exact Or.inl h
  · exact Or.inr ⟨h1, h2, by rw [List.getElem?_append_left (List.getElem?_eq_some_iff.mp h3).1]; exact h3⟩

theorem pending_id (lz : Bool) (st : PState) (h : Inv lz st) (j : Nat) (hj : j < st.pending.length) :
    IdOK lz (allEntries lz st) (st.pendingIds.getD j 0) st.pending[j] := by
  have hid : st.pendingIds.getD j 0 = (st.packs.flatten ++ pre lz st).length + j + off lz := by
    rw [h.ids, List.getD_eq_getElem?_getD, List.getElem?_range' hj, Option.getD_some, Nat.one_mul]
    exact Nat.add_right_comm _ _ _
  rw [hid]
  refine IdOK.at ?_ (Nat.le_trans h.base_pos (Nat.add_le_add_right (Nat.le_add_right _ _) _))
  unfold allEntries
  rw [← List.append_assoc, List.getElem?_append_right (Nat.le_add_right _ _), Nat.add_sub_cancel_left]
  exact List.getElem?_eq_getElem hj

theorem assign_spec (lz : Bool) (st : PState) (d : List Nat) (h : Inv lz st) :
    ∃ suffix, suffix.Sublist [d] ∧ Inv lz (assign lz st d).1 ∧
      allEntries lz (assign lz st d).1 = allEntries lz st ++ suffix ∧
      IdOK lz (allEntries lz (assign lz st d).1) (assign lz st d).2 d := by
  unfold assign
  by_cases he : (lz && d.isEmpty) = true
  · rw [if_pos he]
    rw [Bool.and_eq_true, List.isEmpty_iff] at he
    exact ⟨[], List.nil_sublist _, h, (List.append_nil _).symm, Or.inl ⟨he.1, rfl, he.2⟩⟩
  · rw [if_neg he]
    cases hidx : st.pending.idxOf? d with
    | some j =>
      obtain ⟨hlt, hd, _⟩ := List.idxOf?_eq_some_iff.mp hidx
      exact ⟨[], List.nil_sublist _, h, (List.append_nil _).symm, hd ▸ pending_id lz st h j hlt⟩
    | none =>
      obtain ⟨hinv, hall, hid⟩ := addNew_spec lz st d h
      refine ⟨[d], List.Sublist.refl _, hinv, hall, ?_⟩
      rw [hid, hall]
      refine IdOK.at List.getElem?_concat_length ?_
      rw [allEntries_length]
      exact Nat.le_trans h.base_pos (Nat.add_le_add_right (Nat.le_add_right _ _) _)

theorem assignAll_length (lz : Bool) : ∀ (ds : List (List Nat)) (st : PState),
    (assignAll lz st ds).2.length = ds.length
  | [], _ => rfl
  | _ :: ds, _ => congrArg (· + 1) (assignAll_length lz ds _)

/-- A whole sequence of deltas: the entry stream grows by a subsequence of them (those that got a
new id), and every id handed out addresses its delta in the final stream. -/
theorem assignAll_spec (lz : Bool) :
    ∀ (ds : List (List Nat)) (st : PState), Inv lz st →
      ∃ suffix, suffix.Sublist ds ∧ Inv lz (assignAll lz st ds).1 ∧
        allEntries lz (assignAll lz st ds).1 = allEntries lz st ++ suffix ∧
        ∀ j (hj : j < ds.length), IdOK lz (allEntries lz (assignAll lz st ds).1)
          ((assignAll lz st ds).2.getD j 0) ds[j] := by
  intro ds
  induction ds with
  | nil => intro st h; exact ⟨[], List.Sublist.refl _, h, (List.append_nil _).symm, fun j hj => nomatch hj⟩
  | cons d ds ih =>
    intro st h
    obtain ⟨s1, hsub1, hinv1, hall1, hid1⟩ := assign_spec lz st d h
    obtain ⟨s2, hsub2, hinv2, hall2, hids2⟩ := ih _ hinv1
    refine ⟨s1 ++ s2, hsub1.append hsub2, hinv2, ?_, ?_⟩
    · show allEntries lz (assignAll lz (assign lz st d).1 ds).1 = _
      rw [hall2, hall1, List.append_assoc]
    · intro j hj
      cases j with
      | zero =>
        show IdOK lz (allEntries lz (assignAll lz (assign lz st d).1 ds).1) (assign lz st d).2 d
        rw [hall2]
        exact hid1.mono
      | succ j => exact hids2 j (Nat.lt_of_succ_lt_succ hj)

/-- The final flush: all packs but the last are full, and (once an id was handed out) the packs
hold exactly the entry stream. -/
theorem finish_spec (lz : Bool) (st : PState) (h : Inv lz st) :
    Filled 50 (finish lz st) ∧ (st.written ≠ 0 → (finish lz st).flatten = allEntries lz st) := by
  unfold finish allEntries
  rw [filled_iff]
  by_cases hp : st.pending = []
  · rw [hp, List.isEmpty_nil, if_pos rfl]
    refine ⟨⟨fun q hq => h.full q (List.dropLast_subset _ hq), fun p hl => ?_⟩, fun hw => ?_⟩
    · rw [h.full p (List.mem_of_getLast? hl)]
      decide
    · rcases h.started hw with hne | hph
      · exact absurd hp hne
      · rw [pre_of_written lz hph]
        exact (List.append_nil _).symm
  · rw [if_neg (by rw [List.isEmpty_iff]; exact hp), List.dropLast_concat, List.getLast?_concat]
    refine ⟨⟨h.full, fun p hl => Option.some.inj hl ▸ ⟨?_, Nat.le_of_lt h.room⟩⟩, fun _ => ?_⟩
    · rw [List.length_append]
      exact Nat.le_trans (List.length_pos_iff.mpr hp) (Nat.le_add_left _ _)
    · rw [List.flatten_append, List.flatten_cons, List.flatten_nil, List.append_nil]

theorem written_ne_zero_of_addNew (lz : Bool) (st : PState) (d : List Nat) :
    (addNew lz st d).1.written ≠ 0 := by
  unfold addNew; simp only []; split <;> simp

theorem entryAt_eq (packs : List (List (List Nat))) (p e : Nat) :
    entryAt packs p e = (packs[p]?).bind (·[e]?) := by
  unfold entryAt; cases packs[p]? <;> rfl

/-- the decoder's address of an id, for a group id of the kind `lz` says -/
theorem entryAddress_off (lz : Bool) (g : Nat) (hg : g ≥ 16 ↔ lz = true) (id : Nat) :
    entryAddress g id = ((id - off lz) / 50, (id - off lz) % 50) := by
  unfold entryAddress noRawGroups
  cases lz
  · rw [if_neg fun h => Bool.noConfusion (hg.mp h)]; rfl
  · rw [if_pos (hg.mpr rfl)]; rfl

theorem allEntries_init (lz : Bool) :
    allEntries lz PState.init = if lz then [] else [placeholderEntry] := by
  cases lz <;> rfl

theorem allEntries_init_length (lz : Bool) : (allEntries lz PState.init).length + off lz = 1 := by
  cases lz <;> rfl

/-- once a position of the entry stream carries an id `≥ 1`, the packs hold exactly the entry stream -/
theorem finish_flatten (lz : Bool) (st : PState) (h : Inv lz st) (id : Nat)
    (h1 : 1 ≤ id) (h2 : off lz ≤ id) (hlt : id - off lz < (allEntries lz st).length) :
    (finish lz st).flatten = allEntries lz st := by
  apply (finish_spec lz st h).2
  intro hw
  -- with nothing written `next` says `|entries| + off = 1`, so no position carries an id `≥ 1`
  have hnext := h.next
  rw [hw, Nat.zero_max] at hnext
  exact absurd ((Nat.sub_lt_iff_lt_add h2).mp hlt) (hnext ▸ Nat.not_lt.mpr h1)

theorem entryAt_finish (lz : Bool) (g : Nat) (hg : g ≥ 16 ↔ lz = true) (st : PState) (h : Inv lz st)
    (id : Nat) (d : List Nat) (h1 : 1 ≤ id) (h2 : off lz ≤ id) (h3 : (allEntries lz st)[id - off lz]? = some d) :
    entryAt (finish lz st) (entryAddress g id).1 (entryAddress g id).2 = some d := by
  have hlt := (List.getElem?_eq_some_iff.mp h3).1
  have hfl := finish_flatten lz st h id h1 h2 hlt
  rw [entryAddress_off lz g hg, entryAt_eq, filled_index 50 (by decide) _ _ (finish_spec lz st h).1 (hfl ▸ hlt), hfl]
  exact h3

/-- No id exceeds the number of deltas: the entry stream holds at most one entry per delta beyond
the initial one. -/
theorem run_id_le (lz : Bool) (ds : List (List Nat)) (j : Nat) (hj : j < ds.length) :
    (assignAll lz PState.init ds).2.getD j 0 ≤ ds.length := by
  obtain ⟨suffix, hsub, _, hall, hids⟩ := assignAll_spec lz ds PState.init (inv_init lz)
  rcases hids j hj with h0 | ⟨_, h2, h3⟩
  · rw [h0.2.1]; exact Nat.zero_le _
  · have hlt := (List.getElem?_eq_some_iff.mp h3).1
    rw [hall, List.length_append, Nat.sub_lt_iff_lt_add h2, Nat.add_right_comm,
      allEntries_init_length lz, Nat.add_comm] at hlt
    exact Nat.le_trans (Nat.le_of_lt_succ hlt) hsub.length_le

theorem run_entries_mem (lz : Bool) (ds : List (List Nat)) :
    ∀ es ∈ finish lz (assignAll lz PState.init ds).1, ∀ e ∈ es, e = placeholderEntry ∨ e ∈ ds := by
  obtain ⟨suffix, hsub, hinv, hall, _⟩ := assignAll_spec lz ds PState.init (inv_init lz)
  intro es hes e he
  have hpre : (finish lz (assignAll lz PState.init ds).1).flatten <+:
      allEntries lz (assignAll lz PState.init ds).1 := by
    unfold finish allEntries
    split
    · exact List.prefix_append _ _
    · rw [List.flatten_append, List.flatten_cons, List.flatten_nil, List.append_nil]
      exact List.prefix_refl _
  have hmem := hpre.subset (List.mem_flatten_of_mem hes he)
  rw [hall, allEntries_init] at hmem
  rcases List.mem_append.mp hmem with h | h
  · cases lz
    · exact Or.inl (List.mem_singleton.mp h)
    · cases h
  · exact Or.inr (hsub.subset h)

/-- **A whole run** from `PState.init` to `finish`, seen by the decoder of a group `g` of the kind
`lz` says: the packs are filled; a raw group that got a delta starts with the placeholder; every id is
0 for an empty delta of an LZ group, or at least 1 and addresses its delta. -/
theorem run_addressing (lz : Bool) (g : Nat) (hg : g ≥ 16 ↔ lz = true) (ds : List (List Nat)) :
    Filled 50 (finish lz (assignAll lz PState.init ds).1) ∧
    (lz = false → ds ≠ [] →
      entryAt (finish lz (assignAll lz PState.init ds).1) 0 0 = some [Ragc.Agc3.placeholder]) ∧
    ∀ j (hj : j < ds.length),
      (lz = true ∧ (assignAll lz PState.init ds).2.getD j 0 = 0 ∧ ds[j] = []) ∨
      (1 ≤ (assignAll lz PState.init ds).2.getD j 0 ∧
        entryAt (finish lz (assignAll lz PState.init ds).1)
          (entryAddress g ((assignAll lz PState.init ds).2.getD j 0)).1
          (entryAddress g ((assignAll lz PState.init ds).2.getD j 0)).2 = some ds[j]) := by
  obtain ⟨suffix, _, hinv, hall, hids⟩ := assignAll_spec lz ds PState.init (inv_init lz)
  have hfilled := (finish_spec lz _ hinv).1
  refine ⟨hfilled, fun hlz hne => ?_, fun j hj => (hids j hj).imp id fun h3 =>
    ⟨h3.1, entryAt_finish lz g hg _ hinv _ _ h3.1 h3.2.1 h3.2.2⟩⟩
  -- the first delta of a raw group has an id `≥ 1`, so the packs are the entry stream, which begins
  -- with the placeholder
  subst hlz
  rcases hids 0 (List.length_pos_iff.mpr hne) with h0 | h3
  · exact Bool.noConfusion h0.1
  · have hfl := finish_flatten false _ hinv _ h3.1 h3.2.1 (List.getElem?_eq_some_iff.mp h3.2.2).1
    have hlt : 0 < (finish false (assignAll false PState.init ds).1).flatten.length := by
      rw [hfl, hall]; exact Nat.zero_lt_succ _
    rw [entryAt_eq, filled_index 50 (by decide) _ 0 hfilled hlt, hfl, hall]
    rfl

end Ragc.Packs
