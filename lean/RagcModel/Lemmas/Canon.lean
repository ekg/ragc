import RagcModel.Gen.Tables
/-!
What worker 0 classifies at a barrier does not depend on the order in which the workers appended
to the raw segment buffers.

`classify_raw_segments_at_barrier` (agc_compressor.rs) drains ALL per-worker buffers into one
vector and runs `raw_segs.sort()` before anything else looks at it; `impl Ord for
RawBufferedSegment` compares `sample_name`, then `contig_name`, then `original_place` (the chain is
read from the source by `tools/gen_tables.py` into `Gen.rawSegCmpKeys` on every run).

Model: `RawSeg` is a buffered segment as far as the sort sees it (names as byte strings — Rust's
`String::cmp` is the bytewise lexicographic order, which is `List.lt` on the bytes — plus an opaque
payload); `canon le l` is the sorted vector. The theorem is `canon_eq_of_perm`: two drains that are
permutations of each other (the SAME segments, appended in any order by any workers) sort to the
same vector, provided no two segments of the batch share `(sample, contig, place)` — which holds
because a sample refuses a second record with the same contig name (fix D13) and a contig's segments
are numbered 0, 1, 2, ….
-/
namespace Ragc.Canon

structure RawSeg where
  /-- `sample_name` (bytes) -/
  sample : List Nat
  /-- `contig_name` (bytes) -/
  contig : List Nat
  /-- `original_place` -/
  place : Nat
  /-- everything the sort does not look at: data, k-mers, orientation … -/
  payload : List Nat
deriving DecidableEq, Repr

/-- The sort key as one lexicographically ordered list: `[sample, contig, [place]]`. -/
def key (x : RawSeg) : List (List Nat) := [x.sample, x.contig, [x.place]]

/-- `a ≤ b` in `impl Ord for RawBufferedSegment`. -/
def rawLe (a b : RawSeg) : Bool := decide (key a ≤ key b)

/-- The value of a field of `RawBufferedSegment` that the comparison reads, as an order key. -/
def fieldOf (name : String) (x : RawSeg) : Option (List Nat) :=
  if name = "sample_name" then some x.sample
  else if name = "contig_name" then some x.contig
  else if name = "original_place" then some [x.place]
  else none

/-- `a ≤ b` in the comparison chain `keys` as `tools/gen_tables.py` reads it from the source
(`(field, reversed)`; `match self.f.cmp(&other.f) { Equal => …, other => other }`). An unknown field
makes it `False`. -/
def chainLe : List (String × Bool) → RawSeg → RawSeg → Prop
  | [], _, _ => True
  | (f, rev) :: rest, a, b =>
    match fieldOf f a, fieldOf f b with
    | some va, some vb => (if rev then vb < va else va < vb) ∨ (va = vb ∧ chainLe rest a b)
    | _, _ => False

/-- The chain translated from the source IS the model's order, for all segments. -/
theorem rawLe_translated (a b : RawSeg) : chainLe Ragc.Gen.rawSegCmpKeys a b ↔ rawLe a b = true := by
  simp [Ragc.Gen.rawSegCmpKeys, chainLe, fieldOf, rawLe, key, List.cons_le_cons_iff]

theorem rawLe_trans (a b c : RawSeg) : rawLe a b = true → rawLe b c = true → rawLe a c = true := by
  simp only [rawLe, decide_eq_true_eq]; exact List.le_trans

theorem rawLe_total (a b : RawSeg) : (rawLe a b || rawLe b a) = true := by
  simp only [rawLe, Bool.or_eq_true, decide_eq_true_eq]; exact List.le_total _ _

theorem rawLe_antisymm (a b : RawSeg) : rawLe a b = true → rawLe b a = true → key a = key b := by
  simp only [rawLe, decide_eq_true_eq]; exact List.le_antisymm

/-- The vector `classify_raw_segments_at_barrier` works on: the drained buffers, sorted.
(`sort` is stable; with distinct keys stability is irrelevant, and `mergeSort` is stable as well.) -/
def canon (l : List RawSeg) : List RawSeg := l.mergeSort rawLe

/-- No two segments of the batch share `(sample, contig, place)`. -/
def KeysDistinct (l : List RawSeg) : Prop := ∀ a ∈ l, ∀ b ∈ l, key a = key b → a = b

theorem canon_perm (l : List RawSeg) : (canon l).Perm l := List.mergeSort_perm l rawLe

theorem canon_sorted (l : List RawSeg) : (canon l).Pairwise (fun a b => rawLe a b = true) :=
  List.pairwise_mergeSort rawLe_trans rawLe_total l

/-- A vector that is sorted and a permutation of the drained one IS the canonical vector. -/
theorem canon_unique (l t : List RawSeg) (hp : t.Perm l) (hs : t.Pairwise (fun a b => rawLe a b = true))
    (hd : KeysDistinct l) : canon l = t := by
  refine List.Perm.eq_of_pairwise (le := fun a b => rawLe a b = true) ?_ (canon_sorted l) hs
    ((canon_perm l).trans hp.symm)
  intro a b ha hb hab hba
  exact hd a ((canon_perm l).subset ha) b (hp.subset hb) (rawLe_antisymm a b hab hba)

/-- **Arrival order is irrelevant**: the same segments drained in any order sort to the same vector. -/
theorem canon_eq_of_perm (l₁ l₂ : List RawSeg) (hp : l₁.Perm l₂) (hd : KeysDistinct l₁) :
    canon l₁ = canon l₂ :=
  canon_unique l₁ (canon l₂) ((canon_perm l₂).trans hp.symm) (canon_sorted l₂) hd

/-- … hence anything computed from the sorted vector (group assignment, ids, packs, bytes) is the
same: `F` is the rest of `classify_raw_segments_at_barrier` and of the store phase, applied to the
state `σ` left by the previous rounds. -/
theorem classify_order_insensitive {σ : Type} (F : σ → List RawSeg → σ) (s : σ) (l₁ l₂ : List RawSeg)
    (hp : l₁.Perm l₂) (hd : KeysDistinct l₁) : F s (canon l₁) = F s (canon l₂) := by
  rw [canon_eq_of_perm l₁ l₂ hp hd]

/-- Over a whole run: the state after all rounds is the same for two runs whose batches are, round
by round, permutations of each other. -/
theorem rounds_order_insensitive {σ : Type} (F : σ → List RawSeg → σ) (bs₁ bs₂ : List (List RawSeg)) (s : σ)
    (hl : bs₁.length = bs₂.length)
    (h : ∀ r (h₁ : r < bs₁.length) (h₂ : r < bs₂.length), (bs₁[r]).Perm (bs₂[r]) ∧ KeysDistinct (bs₁[r])) :
    (bs₁.map canon).foldl F s = (bs₂.map canon).foldl F s := by
  have : bs₁.map canon = bs₂.map canon :=
    List.ext_getElem (by rw [List.length_map, List.length_map, hl]) fun r h₁ h₂ => by
      rw [List.length_map] at h₁ h₂
      rw [List.getElem_map, List.getElem_map]
      exact canon_eq_of_perm _ _ (h r h₁ h₂).1 (h r h₁ h₂).2
  rw [this]

/-! ### Non-vacuity: two different arrival orders of a four-segment batch -/

def exA : List RawSeg :=
  [⟨[115, 49], [99, 50], 0, [1]⟩, ⟨[115, 49], [99, 49], 1, [2]⟩, ⟨[115, 49], [99, 49], 0, [3]⟩, ⟨[114], [122], 7, [4]⟩]
def exB : List RawSeg :=
  [⟨[114], [122], 7, [4]⟩, ⟨[115, 49], [99, 49], 0, [3]⟩, ⟨[115, 49], [99, 50], 0, [1]⟩, ⟨[115, 49], [99, 49], 1, [2]⟩]
def exSorted : List RawSeg :=
  [⟨[114], [122], 7, [4]⟩, ⟨[115, 49], [99, 49], 0, [3]⟩, ⟨[115, 49], [99, 49], 1, [2]⟩, ⟨[115, 49], [99, 50], 0, [1]⟩]

theorem exA_distinct : KeysDistinct exA := by
  unfold KeysDistinct; decide +kernel

example : exA ≠ exB ∧ exA.Perm exB ∧ KeysDistinct exA ∧ canon exA = canon exB ∧ canon exA = exSorted :=
  ⟨by decide, by decide +kernel, exA_distinct, canon_eq_of_perm exA exB (by decide +kernel) exA_distinct,
   canon_unique exA exSorted (by decide +kernel) (by decide +kernel) exA_distinct⟩

/-- Without the distinct-keys hypothesis the statement is false (a stable sort keeps the arrival
order of equal keys) — the hypothesis is needed, and it is what fix D13 guarantees. -/
theorem distinct_keys_needed :
    ∃ l₁ l₂ : List RawSeg, l₁.Perm l₂ ∧ canon l₁ ≠ canon l₂ := by
  refine ⟨[⟨[1], [1], 0, [1]⟩, ⟨[1], [1], 0, [2]⟩], [⟨[1], [1], 0, [2]⟩, ⟨[1], [1], 0, [1]⟩], .swap .., ?_⟩
  -- both orders are sorted already, and the sort is stable
  rw [canon, canon, List.mergeSort_of_pairwise (by decide), List.mergeSort_of_pairwise (by decide)]
  decide

end Ragc.Canon
