import RagcModel.Model.Segment
/-!
Helper definitions and lemmas for C10 (segmentation tiles each contig).

The model loop is factored into
* `cuts`  — *where* the loop splits (depends only on the window tracker and the splitter predicate),
* `build` — *how* segments are cut out of the contig given the split positions,
and `loop_eq_build` shows `loop = some (build (cuts ..))` (in particular no slice is ever out of
range).  What holds at the split events is proved by one induction over the scan, `cuts_inv`, for an
arbitrary invariant of the loop state; the facts used later (`cuts_splitter`, `cuts_ok_zero`, `cuts_gap`, `cuts_state`) are
instances.  `build_at` carries a fact about the events over to the non-final segments.
-/
namespace Ragc.Segment

/-- One split event: exclusive end position `pos+1`, the k-mer value and its orientation flag. -/
structure Cut where
  e : Nat
  v : UInt64
  d : Bool

/-- The split events of the loop started at position `pos` in window state `st`. -/
def cuts (T : Tracker σ) (isSplitter : UInt64 → Bool) (withSize : Bool) :
    σ → Nat → List UInt8 → List Cut
  | _, _, [] => []
  | st, pos, b :: rest =>
    if b > 3 then cuts T isSplitter withSize (T.reset st) (pos + 1) rest
    else
      if T.isFull (T.insert st b.toUInt64) = true ∧ isSplitter (T.data (T.insert st b.toUInt64)) = true then
        ⟨pos + 1, T.data (T.insert st b.toUInt64), T.isDirOriented (T.insert st b.toUInt64)⟩ ::
          cuts T isSplitter withSize
            (if withSize then T.reset (T.insert st b.toUInt64) else T.insert st b.toUInt64) (pos + 1) rest
      else cuts T isSplitter withSize (T.insert st b.toUInt64) (pos + 1) rest

/-- The segments cut out of `contig` for a list of split events, starting a segment at `s` with
    front k-mer `f` / flag `fd`. -/
def build (withSize : Bool) (k : Nat) (contig : List UInt8) : Nat → UInt64 → Bool → List Cut → List Segment
  | s, f, fd, [] => finalSegments withSize contig s f fd
  | s, f, fd, c :: cs =>
    { data := (contig.drop s).take (c.e - s), frontKmer := f, backKmer := c.v,
      frontKmerIsDir := frontDirOut withSize f fd, backKmerIsDir := c.d } ::
      build withSize k contig (c.e - k) c.v c.d cs

theorem length_take_drop {c : List α} {s e : Nat} (he : e ≤ c.length) :
    ((c.take e).drop s).length = e - s := by
  rw [List.length_drop, List.length_take_of_le he]

theorem take_succ_of_drop {l : List α} {n : Nat} {b : α} {rest : List α} (h : l.drop n = b :: rest) :
    l.take (n + 1) = l.take n ++ [b] ∧ l.drop (n + 1) = rest ∧ n < l.length := by
  refine ⟨?_, ?_, Nat.lt_of_sub_pos ?_⟩
  · rw [List.take_add, h]; rfl
  · rw [← List.drop_drop, h]; rfl
  · rw [← List.length_drop, h]; exact Nat.succ_pos _

theorem loop_eq_build (T : Tracker σ) (isSplitter : UInt64 → Bool) (withSize : Bool) (k : Nat)
    (contig : List UInt8) :
    ∀ (rest : List UInt8) (pos : Nat) (st : σ) (s : Nat) (f : UInt64) (fd : Bool),
      s ≤ pos → pos + rest.length = contig.length →
      loop T isSplitter withSize k contig rest pos st s f fd
        = some (build withSize k contig s f fd (cuts T isSplitter withSize st pos rest)) := by
  intro rest
  induction rest with
  | nil => intro pos st s f fd _ _; rfl
  | cons b rest ih =>
    intro pos st s f fd hs hlen
    have hlen' : pos + 1 + rest.length = contig.length := by rw [Nat.add_right_comm]; exact hlen
    have hs1 : s ≤ pos + 1 := Nat.le_succ_of_le hs
    have hskip := fun st' => ih (pos + 1) st' s f fd hs1 hlen'
    rw [loop, cuts]
    by_cases hb : b > 3
    · rw [if_pos hb, if_pos hb]; exact hskip _
    · rw [if_neg hb, if_neg hb]
      by_cases hc : T.isFull (T.insert st b.toUInt64) = true ∧
          isSplitter (T.data (T.insert st b.toUInt64)) = true
      · -- the slice `contig[s..pos+1)` exists and is not empty
        have hpos : pos + 1 ≤ contig.length := hlen' ▸ Nat.le_add_right _ _
        have hne : ((contig.drop s).take (pos + 1 - s)).isEmpty = false :=
          List.isEmpty_eq_false_iff.mpr (List.ne_nil_of_length_pos
            (by rw [← List.drop_take, length_take_drop hpos]; exact Nat.sub_pos_of_lt (Nat.lt_succ_of_le hs)))
        simp only [hc, and_self, if_true, slice?, hs1, hpos, hne, ih _ _ _ _ _ (Nat.sub_le _ k) hlen',
          Bool.false_eq_true, if_false, List.singleton_append, build]
      · rw [if_neg hc]
        by_cases hf : T.isFull (T.insert st b.toUInt64) = true
        · have hs' : isSplitter (T.data (T.insert st b.toUInt64)) = false :=
            Bool.eq_false_iff.mpr fun h => hc ⟨hf, h⟩
          simp only [hf, hs', if_true, Bool.false_eq_true, if_false]
          exact hskip _
        · simp only [hf]
          exact hskip _

/-! ### Specification vocabulary (used by `Props/C10.lean`) -/

/-- Later pieces of a tiling: `e` is the (exclusive) end offset in `c` of the previous piece.
    Every piece starts exactly `k` symbols before `e`, has at least `k` symbols, is the
    corresponding slice of `c`; after the last piece the end offset is `|c|`. -/
def TilesFrom (k : Nat) (c : List α) : Nat → List (List α) → Prop
  | e, [] => e = c.length
  | e, p :: ps =>
    k ≤ e ∧ k ≤ p.length ∧ e - k + p.length ≤ c.length ∧ p = (c.drop (e - k)).take p.length ∧
      TilesFrom k c (e - k + p.length) ps

/-- `Tiles k c pieces`: there is at least one piece; the first is the prefix of `c` of its own
    length (it starts at offset 0); each later piece starts exactly `k` symbols before the previous
    one ends, has `≥ k` symbols and is a slice of `c`; the last piece ends at the end of `c`. -/
def Tiles (k : Nat) (c : List α) : List (List α) → Prop
  | [] => False
  | p :: ps => p.length ≤ c.length ∧ p = c.take p.length ∧ TilesFrom k c p.length ps

/-- Reassembly used by the decompressor: the first piece, then every later piece without its
    first `k` symbols. -/
def reassemble (k : Nat) : List (List α) → List α
  | [] => []
  | p :: ps => p ++ (ps.map (List.drop k)).flatten

theorem tilesFrom_cons {k : Nat} {c : List α} {e e' : Nat} {ps : List (List α)} (hk : k ≤ e) (he : e ≤ e')
    (he' : e' ≤ c.length) (h : TilesFrom k c e' ps) :
    TilesFrom k c e ((c.drop (e - k)).take (e' - (e - k)) :: ps) := by
  have hadd : e - k + (e' - (e - k)) = e' := Nat.add_sub_cancel' (Nat.le_trans (Nat.sub_le e k) he)
  have hkp : e - k + k ≤ e - k + (e' - (e - k)) := by rw [Nat.sub_add_cancel hk, hadd]; exact he
  have hlen : ((c.drop (e - k)).take (e' - (e - k))).length = e' - (e - k) := by
    rw [← List.drop_take]; exact length_take_drop he'
  rw [TilesFrom, hlen, hadd]
  exact ⟨hk, Nat.le_of_add_le_add_left hkp, he', rfl, h⟩

theorem tiles_single (k : Nat) (c : List α) : Tiles k c [c] :=
  ⟨Nat.le_refl _, List.take_length.symm, rfl⟩

theorem tilesFrom_flatten (k : Nat) (c : List α) :
    ∀ (ps : List (List α)) (e : Nat), TilesFrom k c e ps →
      (ps.map (List.drop k)).flatten = c.drop e := by
  intro ps
  induction ps with
  | nil => intro e h; rw [show e = c.length from h, List.drop_length]; rfl
  | cons p ps ih =>
    intro e ⟨hke, hkp, _, hp, hrest⟩
    -- `p.drop k` is `c[e..e-k+|p|)`, the later pieces give `c[e-k+|p|..)`
    have hd : ((c.drop (e - k)).take p.length).drop k = (c.drop e).take (p.length - k) := by
      rw [List.drop_take, List.drop_drop, Nat.sub_add_cancel hke]
    have he : c.drop (e - k + p.length) = (c.drop e).drop (p.length - k) := by
      rw [List.drop_drop, ← Nat.add_sub_assoc hkp, Nat.sub_add_comm hke]
    rw [← hp] at hd
    rw [List.map_cons, List.flatten_cons, ih _ hrest, hd, he, List.take_append_drop]

theorem reassemble_of_tiles (k : Nat) (c : List α) (ps : List (List α)) (h : Tiles k c ps) :
    reassemble k ps = c := by
  cases ps with
  | nil => exact h.elim
  | cons p ps =>
    obtain ⟨_, hp, hrest⟩ := h
    rw [reassemble, tilesFrom_flatten k c ps _ hrest]
    conv => lhs; lhs; rw [hp]
    exact List.take_append_drop ..

theorem tilesFrom_later_ge (k : Nat) (c : List α) :
    ∀ (ps : List (List α)) (e : Nat), TilesFrom k c e ps → ∀ p ∈ ps, k ≤ p.length := by
  intro ps
  induction ps with
  | nil => intro e _ p hp; cases hp
  | cons q ps ih =>
    intro e ⟨_, hkq, _, _, hrest⟩ p hp
    cases hp with
    | head => exact hkq
    | tail _ hp => exact ih _ hrest p hp

theorem tilesFrom_append {k : Nat} {c : List α} :
    ∀ (pre : List (List α)) {ps : List (List α)} {e : Nat}, TilesFrom k c e (pre ++ ps) →
      ∃ e', TilesFrom k c e' ps
  | [], _, e, h => ⟨e, h⟩
  | _ :: pre, _, _, h => tilesFrom_append pre h.2.2.2.2

theorem tilesFrom_overlap {k : Nat} {c p q : List α} {s : Nat} {ps : List (List α)}
    (hp : p = (c.drop s).take p.length) (hk : k ≤ p.length)
    (h : TilesFrom k c (s + p.length) (q :: ps)) : q.take k = p.drop (p.length - k) := by
  obtain ⟨_, hkq, _, hq, _⟩ := h
  have h1 : ((c.drop (s + p.length - k)).take q.length).take k = (c.drop (s + p.length - k)).take k := by
    rw [List.take_take, Nat.min_eq_left hkq]
  have h2 : ((c.drop s).take p.length).drop (p.length - k) = (c.drop (s + p.length - k)).take k := by
    rw [List.drop_take, List.drop_drop, Nat.sub_sub_self hk, Nat.add_sub_assoc hk]
  rw [← hq] at h1
  rw [← hp] at h2
  rw [h1, h2]

theorem tiles_overlap_at {k : Nat} {c : List α} {pre post : List (List α)} {p q : List α}
    (h : Tiles k c (pre ++ p :: q :: post)) : q.take k = p.drop (p.length - k) := by
  cases pre with
  | nil =>
    obtain ⟨_, hp, hrest⟩ := h
    exact tilesFrom_overlap (s := 0) (by rwa [List.drop_zero]) hrest.1 (by rwa [Nat.zero_add])
  | cons x pre =>
    obtain ⟨e, _, hkp, _, hp, hrest⟩ := tilesFrom_append pre h.2.2
    exact tilesFrom_overlap hp hkp hrest

theorem tiles_nonempty (k : Nat) (hk : 1 ≤ k) (c : List α) (ps : List (List α)) (h : Tiles k c ps)
    (hc : c ≠ []) : ∀ p ∈ ps, p ≠ [] := by
  cases ps with
  | nil => exact h.elim
  | cons p0 ps =>
    obtain ⟨_, _, hrest⟩ := h
    intro p hp hnil
    subst hnil
    cases hp with
    | tail _ hp => exact Nat.not_succ_le_zero 0 (Nat.le_trans hk (tilesFrom_later_ge k c ps _ hrest [] hp))
    | head =>
      -- an empty first piece: either it is the only one and `c = []`, or `k ≤ 0`
      cases ps with
      | nil => exact hc (List.eq_nil_of_length_eq_zero hrest.symm)
      | cons q ps => exact Nat.not_succ_le_zero 0 (Nat.le_trans hk hrest.1)

/-! ### The scan, one symbol at a time (`T.feed st [b]` is the window after the symbol `b`) -/

theorem Tracker.feed_append (T : Tracker σ) : ∀ (l m : List UInt8) (st : σ),
    T.feed st (l ++ m) = T.feed (T.feed st l) m := by
  intro l
  induction l with
  | nil => intro m st; rfl
  | cons b bs ih =>
    intro m st
    simp only [List.cons_append, Tracker.feed]
    split <;> exact ih _ _

theorem Tracker.feed_singleton (T : Tracker σ) (st : σ) (b : UInt8) :
    T.feed st [b] = if b > 3 then T.reset st else T.insert st b.toUInt64 := rfl

/-- `P lo c` for every split event `c`, where `lo` is the end of the previous one. -/
def CutChain (P : Nat → Cut → Prop) : Nat → List Cut → Prop
  | _, [] => True
  | lo, c :: cs => P lo c ∧ CutChain P c.e cs

/-- The loop invariant, once.  `I lo pos st rest` speaks of the loop state at position `pos` (`lo` is
    the end of the last split, `rest` the symbols still to come).  If it survives a symbol, and at a
    split yields `P` for the event and holds again for the state the scan continues with, then `P`
    holds along the split events. -/
theorem cuts_inv (T : Tracker σ) (isS : UInt64 → Bool) (ws : Bool)
    {I : Nat → Nat → σ → List UInt8 → Prop} {P : Nat → Cut → Prop}
    (hstep : ∀ lo pos st b rest, lo ≤ pos → I lo pos st (b :: rest) → I lo (pos + 1) (T.feed st [b]) rest)
    (hcut : ∀ lo pos st rest, lo < pos → I lo pos st rest → T.isFull st = true → isS (T.data st) = true →
      P lo ⟨pos, T.data st, T.isDirOriented st⟩ ∧ I pos pos (if ws then T.reset st else st) rest) :
    ∀ (rest : List UInt8) (lo pos : Nat) (st : σ), lo ≤ pos → I lo pos st rest →
      CutChain P lo (cuts T isS ws st pos rest) := by
  intro rest
  induction rest with
  | nil => intro _ _ _ _ _; trivial
  | cons b rest ih =>
    intro lo pos st hlo hI
    have hI' := hstep lo pos st b rest hlo hI
    rw [cuts]
    by_cases hb : b > 3
    · rw [if_pos hb]
      rw [T.feed_singleton, if_pos hb] at hI'
      exact ih _ _ _ (Nat.le_succ_of_le hlo) hI'
    · rw [if_neg hb]
      rw [T.feed_singleton, if_neg hb] at hI'
      split
      · rename_i hc
        have hc := hcut lo (pos + 1) _ rest (Nat.lt_succ_of_le hlo) hI' hc.1 hc.2
        exact ⟨hc.1, ih _ _ _ (Nat.le_refl _) hc.2⟩
      · exact ih _ _ _ (Nat.le_succ_of_le hlo) hI'

/-- The only thing the tiling needs from the k-mer window: a bound `R s n` ("at most `n` symbols
    were inserted into `s` since the last reset") such that a full window has seen `k` symbols. -/
structure Tracker.Window (T : Tracker σ) (k : Nat) (R : σ → Nat → Prop) : Prop where
  mono : ∀ s n m, R s n → n ≤ m → R s m
  reset : ∀ s n, R s n → R (T.reset s) 0
  insert : ∀ s n b, R s n → R (T.insert s b) (n + 1)
  full : ∀ s n, R s n → T.isFull s = true → k ≤ n

/-- Split positions are strictly increasing from `lo`, at least `k`, at most `len`. -/
def CutsOK (k len : Nat) : Nat → List Cut → Prop
  | _, [] => True
  | lo, c :: cs => lo < c.e ∧ k ≤ c.e ∧ c.e ≤ len ∧ CutsOK k len c.e cs

theorem cutsOK_of_chain {k len : Nat} : ∀ {cs : List Cut} {lo : Nat},
    CutChain (fun lo c => lo < c.e ∧ k ≤ c.e ∧ c.e ≤ len) lo cs → CutsOK k len lo cs
  | [], _, _ => trivial
  | _ :: _, _, h => ⟨h.1.1, h.1.2.1, h.1.2.2, cutsOK_of_chain h.2⟩

/-- At the split event `c` the window is full, and the recorded value and flag are the tracker's
    after scanning, from the fresh state, the symbols since the window was last restarted: the end
    `lo` of the previous split if the window is reset after a split (`ws`), the contig start if not. -/
def CutState (T : Tracker σ) (init : σ) (contig : List UInt8) (ws : Bool) (lo : Nat) (c : Cut) : Prop :=
  T.isFull (T.feed init ((contig.take c.e).drop (if ws then lo else 0))) = true ∧
    c.v = T.data (T.feed init ((contig.take c.e).drop (if ws then lo else 0))) ∧
    c.d = T.isDirOriented (T.feed init ((contig.take c.e).drop (if ws then lo else 0)))

/-- What C20 (`slide_eq_scratch`) provides for the `Kmer` tracker: after scanning any sequence
    that ends with `k` bases `w`, the value is a function `canon` of `w` alone. -/
def WindowExact (T : Tracker σ) (init : σ) (k : Nat) (canon : List UInt8 → UInt64) : Prop :=
  ∀ (pre w : List UInt8), w.length = k → (∀ x ∈ w, x ≤ 3) → T.data (T.feed init (pre ++ w)) = canon w

theorem Tracker.Window.feed_bound {T : Tracker σ} {k : Nat} {R : σ → Nat → Prop} (hT : T.Window k R) (l : List UInt8) :
    ∀ {st : σ} {n : Nat}, R st n → R (T.feed st l) (n + l.length) := by
  induction l with
  | nil => exact fun h => h
  | cons b l ih =>
    intro st n h
    rw [Tracker.feed, List.length_cons, ← Nat.add_assoc, Nat.add_right_comm]
    split
    · exact ih (hT.mono _ _ _ (hT.reset _ _ h) (Nat.zero_le _))
    · exact ih (hT.insert _ _ _ h)

/-- Split events come in order, inside the contig, and their values are splitters.  Any tracker. -/
theorem cuts_splitter (T : Tracker σ) (init : σ) (isS : UInt64 → Bool) (ws : Bool) (contig : List UInt8) :
    CutChain (fun lo c => lo < c.e ∧ c.e ≤ contig.length ∧ isS c.v = true) 0 (cuts T isS ws init 0 contig) := by
  refine cuts_inv T isS ws (I := fun _ p _ rest => p + rest.length = contig.length) ?_ ?_
    contig 0 0 init (Nat.le_refl _) (Nat.zero_add _)
  · intro _ p _ b rest _ hlen
    rw [← hlen, Nat.add_right_comm]; rfl
  · intro lo p _ rest hlo hlen _ hs
    exact ⟨⟨hlo, hlen ▸ Nat.le_add_right _ _, hs⟩, hlen⟩

/-- The window is full at a split, so it has seen `k` symbols. -/
theorem cuts_ok_zero {T : Tracker σ} {k : Nat} {R : σ → Nat → Prop} (hT : T.Window k R) {init : σ}
    (h0 : R init 0) (isS : UInt64 → Bool) (ws : Bool) (contig : List UInt8) :
    CutsOK k contig.length 0 (cuts T isS ws init 0 contig) := by
  refine cutsOK_of_chain (cuts_inv T isS ws (I := fun _ p st rest => p + rest.length = contig.length ∧ R st p)
    ?_ ?_ contig 0 0 init (Nat.le_refl _) ⟨Nat.zero_add _, h0⟩)
  · intro _ p st b rest _ ⟨hlen, hR⟩
    exact ⟨by rw [← hlen, Nat.add_right_comm]; rfl, hT.feed_bound [b] hR⟩
  · intro lo p st rest hlo ⟨hlen, hR⟩ hf _
    refine ⟨⟨hlo, hT.full _ _ hR hf, hlen ▸ Nat.le_add_right _ _⟩, hlen, ?_⟩
    cases ws
    · exact hR
    · exact hT.mono _ _ _ (hT.reset _ _ hR) (Nat.zero_le _)

/-- `with_size` restarts the window at a split, so the next split is at least `k` symbols later. -/
theorem cuts_gap {T : Tracker σ} {k : Nat} {R : σ → Nat → Prop} (hT : T.Window k R) (isS : UInt64 → Bool)
    (rest : List UInt8) (st : σ) (lo pos : Nat) (hlo : lo ≤ pos) (hR : R st (pos - lo)) :
    CutChain (fun lo c => lo + k ≤ c.e) lo (cuts T isS true st pos rest) := by
  refine cuts_inv T isS true (I := fun lo p st' _ => R st' (p - lo)) ?_ ?_ rest lo pos st hlo hR
  · intro lo p st' b _ hlo hR'
    rw [Nat.sub_add_comm hlo]
    exact hT.feed_bound [b] hR'
  · intro lo p st' _ hlo hR' hf _
    exact ⟨Nat.add_le_of_le_sub' (Nat.le_of_lt hlo) (hT.full _ _ hR' hf), Nat.sub_self p ▸ hT.reset _ _ hR'⟩

/-- `hreset`: a reset tracker is in the fresh state. -/
theorem cuts_state {T : Tracker σ} {k : Nat} {R : σ → Nat → Prop} (hT : T.Window k R) (init : σ)
    (h0 : R init 0) (isS : UInt64 → Bool) (ws : Bool)
    (hreset : ws = true → ∀ s n, R s n → T.reset s = init) (contig : List UInt8) :
    CutChain (CutState T init contig ws) 0 (cuts T isS ws init 0 contig) := by
  refine cuts_inv T isS ws (I := fun lo p st rest =>
      contig.drop p = rest ∧ st = T.feed init ((contig.take p).drop (if ws then lo else 0))) ?_ ?_
    contig 0 0 init (Nat.le_refl _) ⟨rfl, by rw [List.take_zero, List.drop_nil]; rfl⟩
  · intro lo p st b rest hlo ⟨hdrop, hst⟩
    obtain ⟨htake, hdrop', hlt⟩ := take_succ_of_drop hdrop
    refine ⟨hdrop', ?_⟩
    rw [htake, List.drop_append_of_le_length, Tracker.feed_append, ← hst]
    rw [List.length_take_of_le (Nat.le_of_lt hlt)]
    split
    · exact hlo
    · exact Nat.zero_le _
  · intro lo p st rest _ ⟨hdrop, hst⟩ hf _
    refine ⟨⟨hst ▸ hf, hst ▸ rfl, hst ▸ rfl⟩, hdrop, ?_⟩
    cases ws
    · exact hst
    · -- nothing has been scanned since the restart at `p`, and the reset window is the fresh one
      rw [if_pos rfl, if_pos rfl, List.drop_of_length_le (List.length_take_le _ _)]
      exact hreset rfl _ _ (hst ▸ hT.feed_bound _ h0)

/-- If the window is full after scanning `l`, from a state that has seen at most `n` symbols, then
    `n` and `l` together have `k` symbols and the last `k` symbols of `l` (all of `l` if it is shorter)
    are bases. -/
theorem full_feed {T : Tracker σ} {k : Nat} {R : σ → Nat → Prop} (hT : T.Window k R) :
    ∀ (l : List UInt8) (st : σ) (n : Nat), R st n → T.isFull (T.feed st l) = true →
      k ≤ n + l.length ∧ ∀ x ∈ l.drop (l.length - k), x ≤ 3 := by
  intro l
  induction l with
  | nil => intro st n hR hf; exact ⟨hT.full _ _ hR hf, fun x hx => by rw [List.drop_nil] at hx; cases hx⟩
  | cons b l ih =>
    intro st n hR hf
    rw [← List.singleton_append, Tracker.feed_append] at hf
    by_cases hb : b > 3
    · -- a reset: the `k` symbols all come after `b`
      rw [T.feed_singleton, if_pos hb] at hf
      obtain ⟨h1, h2⟩ := ih _ 0 (hT.reset _ _ hR) hf
      rw [Nat.zero_add] at h1
      refine ⟨Nat.le_trans h1 (Nat.le_trans (Nat.le_succ _) (Nat.le_add_left _ n)), ?_⟩
      rw [List.length_cons, Nat.sub_add_comm h1]
      exact h2
    · obtain ⟨h1, h2⟩ := ih _ (n + 1) (hT.feed_bound [b] hR) hf
      refine ⟨Nat.add_right_comm n 1 l.length ▸ h1, ?_⟩
      by_cases hk : k ≤ l.length
      · rw [List.length_cons, Nat.sub_add_comm hk]; exact h2
      · have hlt : l.length < k := Nat.lt_of_not_le hk
        rw [Nat.sub_eq_zero_of_le (Nat.le_of_lt hlt)] at h2
        rw [List.length_cons, Nat.sub_eq_zero_of_le hlt]
        intro x hx
        rcases List.mem_cons.mp hx with rfl | hx
        · exact UInt8.not_lt.mp hb
        · exact h2 x hx

theorem full_suffix {T : Tracker σ} {k : Nat} {R : σ → Nat → Prop} (hT : T.Window k R) (init : σ)
    (h0 : R init 0) (l : List UInt8) (hf : T.isFull (T.feed init l) = true) :
    ∃ pre w, l = pre ++ w ∧ w.length = k ∧ ∀ x ∈ w, x ≤ 3 := by
  obtain ⟨hk, hw⟩ := full_feed hT l init 0 h0 hf
  rw [Nat.zero_add] at hk
  exact ⟨_, _, (List.take_append_drop (l.length - k) l).symm, by rw [List.length_drop, Nat.sub_sub_self hk], hw⟩

theorem window_at {T : Tracker σ} {k : Nat} {R : σ → Nat → Prop} (hT : T.Window k R) (init : σ)
    (h0 : R init 0) (canon : List UInt8 → UInt64)
    (hexact : WindowExact T init k canon) (c : List UInt8) {b e : Nat} (he : e ≤ c.length)
    (hf : T.isFull (T.feed init ((c.take e).drop b)) = true) :
    ((c.take e).drop (e - k)).length = k ∧ (∀ x ∈ (c.take e).drop (e - k), x ≤ 3) ∧
      T.data (T.feed init ((c.take e).drop b)) = canon ((c.take e).drop (e - k)) := by
  obtain ⟨pre, w, hl, hwlen, hw⟩ := full_suffix hT init h0 _ hf
  -- `w` is the end of `c[b..e)`, hence of `c[..e)`
  have hdrop := List.suffix_iff_eq_drop.mp ((hl ▸ List.suffix_append pre w).trans (List.drop_suffix b _))
  rw [List.length_take_of_le he, hwlen] at hdrop
  rw [← hdrop, hl]
  exact ⟨hwlen, hw, hexact pre w hwlen hw⟩

theorem finalSegments_of_lt {withSize : Bool} {contig : List UInt8} {s : Nat} {f : UInt64} {fd : Bool}
    (h : s < contig.length) :
    finalSegments withSize contig s f fd =
      [{ data := contig.drop s, frontKmer := f, backKmer := MISSING_KMER,
         frontKmerIsDir := frontDirOut withSize f fd, backKmerIsDir := false }] := by
  have hne : (contig.drop s).isEmpty = false :=
    List.isEmpty_eq_false_iff.mpr (List.ne_nil_of_length_pos (by rw [List.length_drop]; exact Nat.sub_pos_of_lt h))
  simp only [finalSegments, h, hne, if_true, Bool.false_eq_true, if_false]

theorem length_finalSegments_le (ws : Bool) (contig : List UInt8) (s : Nat) (f : UInt64) (fd : Bool) :
    (finalSegments ws contig s f fd).length ≤ 1 := by
  by_cases h : s < contig.length
  · rw [finalSegments_of_lt h]; exact Nat.le_refl 1
  · rw [finalSegments, if_neg h]; exact Nat.zero_le 1

theorem build_ne_nil {withSize : Bool} {k : Nat} {contig : List UInt8} {s : Nat} {f : UInt64} {fd : Bool}
    {cs : List Cut} (h : s < contig.length) : build withSize k contig s f fd cs ≠ [] := by
  cases cs with
  | nil => rw [build, finalSegments_of_lt h]; exact List.cons_ne_nil _ _
  | cons c cs => exact List.cons_ne_nil _ _

theorem frontDirOut_false (ws : Bool) (f : UInt64) : frontDirOut ws f false = false := by
  unfold frontDirOut; split <;> rfl

theorem build_nil_whole (withSize : Bool) (k : Nat) (contig : List UInt8) (h : 0 < contig.length) :
    build withSize k contig 0 MISSING_KMER false [] = [wholeSegment contig] := by
  rw [build, finalSegments_of_lt h, frontDirOut_false]; rfl

theorem build_tilesFrom (ws : Bool) (k : Nat) (contig : List UInt8) (hk : 1 ≤ k) :
    ∀ (cs : List Cut) (e : Nat) (f : UInt64) (fd : Bool), k ≤ e → e ≤ contig.length →
      CutsOK k contig.length e cs →
      TilesFrom k contig e ((build ws k contig (e - k) f fd cs).map Segment.data) := by
  intro cs
  induction cs with
  | nil =>
    intro e f fd hke hel _
    rw [build, finalSegments_of_lt (Nat.lt_of_lt_of_le (Nat.sub_lt (Nat.lt_of_lt_of_le hk hke) hk) hel)]
    have := tilesFrom_cons hke hel (Nat.le_refl _) (show TilesFrom k contig contig.length [] from rfl)
    rwa [List.take_of_length_le (by rw [List.length_drop]; exact Nat.le_refl _)] at this
  | cons c cs ih =>
    intro e f fd hke hel ⟨hlo, hkc, hcl, hrest⟩
    exact tilesFrom_cons hke (Nat.le_of_lt hlo) hcl (ih c.e c.v c.d hkc hcl hrest)

theorem build_tiles (ws : Bool) (k : Nat) (contig : List UInt8) (hk : 1 ≤ k)
    (hne : 0 < contig.length) (cs : List Cut) (f : UInt64) (fd : Bool)
    (hcs : CutsOK k contig.length 0 cs) :
    Tiles k contig ((build ws k contig 0 f fd cs).map Segment.data) := by
  cases cs with
  | nil =>
    rw [build, finalSegments_of_lt hne]
    exact tiles_single k contig
  | cons c cs =>
    obtain ⟨_, hkc, hcl, hrest⟩ := hcs
    rw [build, List.map_cons, Tiles, List.drop_zero, Nat.sub_zero, List.length_take_of_le hcl]
    exact ⟨hcl, rfl, build_tilesFrom ws k contig hk cs c.e c.v c.d hkc hcl hrest⟩

/-- `splitGeneric` never hits an out-of-range slice, and for `k ≥ 1` the `segments.is_empty()`
    fallback is dead: the result is `build (cuts ..)`.  Holds for every tracker. -/
theorem splitGeneric_eq (T : Tracker σ) (init : σ) (isSplitter : UInt64 → Bool) (withSize : Bool)
    (k : Nat) (contig : List UInt8) (hk : 1 ≤ k) :
    splitGeneric T init isSplitter withSize k contig =
      some (if contig.length < k then [wholeSegment contig]
            else build withSize k contig 0 MISSING_KMER false (cuts T isSplitter withSize init 0 contig)) := by
  unfold splitGeneric
  split
  · rfl
  · rename_i hl
    rw [loop_eq_build T isSplitter withSize k contig contig 0 init 0 _ _ (Nat.le_refl _) (Nat.zero_add _)]
    simp only [List.isEmpty_iff, build_ne_nil (Nat.lt_of_lt_of_le hk (Nat.le_of_not_lt hl)), if_false]

theorem splitGeneric_some {T : Tracker σ} {init : σ} {isS : UInt64 → Bool} {ws : Bool} {k : Nat}
    {contig : List UInt8} (hk : 1 ≤ k) {segs : List Segment}
    (h : splitGeneric T init isS ws k contig = some segs) :
    (contig.length < k ∧ segs = [wholeSegment contig]) ∨
      (k ≤ contig.length ∧ segs = build ws k contig 0 MISSING_KMER false (cuts T isS ws init 0 contig)) := by
  rw [splitGeneric_eq T init isS ws k contig hk] at h
  injection h with h
  subst h
  split
  · exact Or.inl ⟨‹_›, rfl⟩
  · exact Or.inr ⟨Nat.le_of_not_lt ‹_›, rfl⟩

/-- `Linked ws isSpl f fd segs`: the first segment has front k-mer `f` (flag derived from `fd`),
    every non-final segment's back k-mer is a splitter and is the front k-mer of the next segment,
    the final segment has no back k-mer. -/
def Linked (withSize : Bool) (isSplitter : UInt64 → Bool) : UInt64 → Bool → List Segment → Prop
  | _, _, [] => False
  | f, fd, [s] =>
    s.frontKmer = f ∧ s.frontKmerIsDir = frontDirOut withSize f fd ∧
      s.backKmer = MISSING_KMER ∧ s.backKmerIsDir = false
  | f, fd, s :: t :: rest =>
    s.frontKmer = f ∧ s.frontKmerIsDir = frontDirOut withSize f fd ∧ isSplitter s.backKmer = true ∧
      Linked withSize isSplitter s.backKmer s.backKmerIsDir (t :: rest)

theorem Linked.cons {ws : Bool} {isSpl : UInt64 → Bool} {f : UInt64} {fd : Bool} {s : Segment}
    {rest : List Segment} (hf : s.frontKmer = f) (hfd : s.frontKmerIsDir = frontDirOut ws f fd)
    (hs : isSpl s.backKmer = true) (h : Linked ws isSpl s.backKmer s.backKmerIsDir rest) :
    Linked ws isSpl f fd (s :: rest) := by
  cases rest with
  | nil => exact h.elim
  | cons t rest => exact ⟨hf, hfd, hs, h⟩

theorem Linked.head_front {ws : Bool} {isSpl : UInt64 → Bool} {f : UInt64} {fd : Bool} {s : Segment}
    {rest : List Segment} (h : Linked ws isSpl f fd (s :: rest)) :
    s.frontKmer = f ∧ s.frontKmerIsDir = frontDirOut ws f fd := by
  cases rest <;> exact ⟨h.1, h.2.1⟩

theorem Linked.last_back {ws : Bool} {isSpl : UInt64 → Bool} :
    ∀ {segs : List Segment} {f : UInt64} {fd : Bool}, Linked ws isSpl f fd segs →
      ∀ s, segs.getLast? = some s → s.backKmer = MISSING_KMER ∧ s.backKmerIsDir = false := by
  intro segs
  induction segs with
  | nil => intro f fd h; exact h.elim
  | cons a rest ih =>
    intro f fd h s hs
    cases rest with
    | nil => cases hs; exact ⟨h.2.2.1, h.2.2.2⟩
    | cons t rest => exact ih h.2.2.2 s (List.getLast?_cons_cons ▸ hs)

theorem Linked.boundary {ws : Bool} {isSpl : UInt64 → Bool} :
    ∀ {pre : List Segment} {f : UInt64} {fd : Bool} {a b : Segment} {post : List Segment},
      Linked ws isSpl f fd (pre ++ a :: b :: post) →
      a.backKmer = b.frontKmer ∧ isSpl a.backKmer = true ∧
        b.frontKmerIsDir = frontDirOut ws a.backKmer a.backKmerIsDir := by
  intro pre
  induction pre with
  | nil =>
    intro f fd a b post h
    have hb := Linked.head_front h.2.2.2
    exact ⟨hb.1.symm, h.2.2.1, hb.2⟩
  | cons p pre ih =>
    intro f fd a b post h
    cases pre <;> exact ih h.2.2.2

theorem build_linked {ws : Bool} {isS : UInt64 → Bool} {k : Nat} {contig : List UInt8} (hk : 1 ≤ k) :
    ∀ (cs : List Cut) {s lo : Nat} {f : UInt64} {fd : Bool}, s < contig.length →
      CutChain (fun lo c => lo < c.e ∧ c.e ≤ contig.length ∧ isS c.v = true) lo cs →
      Linked ws isS f fd (build ws k contig s f fd cs) := by
  intro cs
  induction cs with
  | nil =>
    intro s _ f fd hs _
    rw [build, finalSegments_of_lt hs]
    exact ⟨rfl, rfl, rfl, rfl⟩
  | cons c cs ih =>
    intro s lo f fd _ ⟨⟨hlo, hcl, hspl⟩, hrest⟩
    -- the next segment starts at `c.e - k < c.e ≤ |contig|`
    exact Linked.cons rfl rfl hspl (ih (Nat.lt_of_lt_of_le (Nat.sub_lt (Nat.zero_lt_of_lt hlo) hk) hcl) hrest)

theorem splitGeneric_linked {T : Tracker σ} {init : σ} {isS : UInt64 → Bool} {ws : Bool} {k : Nat}
    {contig : List UInt8} (hk : 1 ≤ k) {segs : List Segment}
    (h : splitGeneric T init isS ws k contig = some segs) : Linked ws isS MISSING_KMER false segs := by
  rcases splitGeneric_some hk h with ⟨_, rfl⟩ | ⟨hl, rfl⟩
  · exact ⟨rfl, (frontDirOut_false ws _).symm, rfl, rfl⟩
  · exact build_linked hk _ (Nat.lt_of_lt_of_le hk hl) (cuts_splitter T init isS ws contig)

/-- The k-mer values the scan sees without splitting: the tracker's value after every symbol that
    leaves the window full (`enumerate_kmers` for the `Kmer` tracker, see `enum_kmerTracker`). -/
def Tracker.enum (T : Tracker σ) : σ → List UInt8 → List UInt64
  | _, [] => []
  | st, b :: bs =>
    if b > 3 then T.enum (T.reset st) bs
    else if T.isFull (T.insert st b.toUInt64) = true then
      T.data (T.insert st b.toUInt64) :: T.enum (T.insert st b.toUInt64) bs
    else T.enum (T.insert st b.toUInt64) bs

theorem cuts_eq_nil_iff (T : Tracker σ) (isSplitter : UInt64 → Bool) (withSize : Bool) :
    ∀ (rest : List UInt8) (st : σ) (pos : Nat),
      cuts T isSplitter withSize st pos rest = [] ↔ ∀ v ∈ T.enum st rest, isSplitter v = false := by
  intro rest
  induction rest with
  | nil => intro st pos; exact ⟨fun _ v hv => (nomatch hv), fun _ => rfl⟩
  | cons b rest ih =>
    intro st pos
    rw [cuts, Tracker.enum]
    by_cases hb : b > 3
    · rw [if_pos hb, if_pos hb]; exact ih _ _
    · rw [if_neg hb, if_neg hb]
      by_cases hf : T.isFull (T.insert st b.toUInt64) = true
      · rw [if_pos hf, List.forall_mem_cons]
        by_cases hs : isSplitter (T.data (T.insert st b.toUInt64)) = true
        · rw [if_pos ⟨hf, hs⟩, hs]
          exact ⟨fun h => (nomatch h), fun h => (nomatch h.1)⟩
        · rw [if_neg (fun h => hs h.2), ih]
          exact (and_iff_right (Bool.eq_false_iff.mpr hs)).symm
      · rw [if_neg hf, if_neg (fun h => hf h.1)]; exact ih _ _

theorem pair_of_mem_dropLast {a : α} : ∀ {l : List α}, a ∈ l.dropLast → ∃ pre b post, l = pre ++ a :: b :: post := by
  intro l
  induction l with
  | nil => exact fun h => nomatch h
  | cons x l ih =>
    intro h
    cases l with
    | nil => exact nomatch h
    | cons y l =>
      rw [List.dropLast_cons_cons] at h
      rcases List.mem_cons.mp h with rfl | h
      · exact ⟨[], y, l, rfl⟩
      · obtain ⟨pre, b, post, hl⟩ := ih h
        exact ⟨x :: pre, b, post, by rw [hl]; rfl⟩

/-- The non-final segment `a`, coming after the segments `pre`, is `contig[lo-k..c.e)` for a split event
    `c` that follows a split ending at `lo` (`lo = lo₀`, the start, if `a` is the first segment); it records
    `c`'s value and flag, and `C lo c` holds. -/
def FromCut (C : Nat → Cut → Prop) (k : Nat) (contig : List UInt8) (lo₀ : Nat) (pre : List Segment)
    (a : Segment) : Prop :=
  ∃ lo c, (pre = [] ∧ lo = lo₀ ∨ pre ≠ [] ∧ k ≤ lo) ∧ (lo < c.e ∧ k ≤ c.e ∧ c.e ≤ contig.length) ∧ C lo c ∧
    a.data = (contig.take c.e).drop (lo - k) ∧ a.backKmer = c.v ∧ a.backKmerIsDir = c.d

theorem build_at {C : Nat → Cut → Prop} (ws : Bool) {k : Nat} (contig : List UInt8) {a b : Segment}
    {post : List Segment} :
    ∀ (cs : List Cut) {pre : List Segment} {lo s : Nat} {f : UInt64} {fd : Bool}, s = lo - k →
      build ws k contig s f fd cs = pre ++ a :: b :: post →
      CutsOK k contig.length lo cs → CutChain C lo cs → FromCut C k contig lo pre a := by
  intro cs
  induction cs with
  | nil =>
    intro pre lo s f fd _ h
    have := length_finalSegments_le ws contig s f fd
    rw [build] at h
    rw [h, List.length_append] at this
    exact absurd (Nat.le_trans (Nat.le_trans (Nat.le_add_left 2 post.length) (Nat.le_add_left _ _)) this)
      (by decide)
  | cons c cs ih =>
    intro pre lo s f fd hs h hok hC
    rw [build] at h
    cases pre with
    | nil =>
      injection h with ha _
      subst ha hs
      exact ⟨lo, c, Or.inl ⟨rfl, rfl⟩, ⟨hok.1, hok.2.1, hok.2.2.1⟩, hC.1, List.drop_take.symm, rfl, rfl⟩
    | cons x pre =>
      injection h with _ h
      obtain ⟨lo', c', hpre, hrest⟩ := ih rfl h hok.2.2.2 hC.2
      exact ⟨lo', c', Or.inr ⟨List.cons_ne_nil _ _, hpre.elim (fun h => h.2 ▸ hok.2.1) (·.2)⟩, hrest⟩

theorem splitGeneric_pair {T : Tracker σ} {k : Nat} {R : σ → Nat → Prop} (hT : T.Window k R) {init : σ}
    (h0 : R init 0) {isS : UInt64 → Bool} {ws : Bool} {contig : List UInt8} (hk : 1 ≤ k)
    {pre post : List Segment} {a b : Segment}
    (h : splitGeneric T init isS ws k contig = some (pre ++ a :: b :: post))
    {C : Nat → Cut → Prop} (hC : CutChain C 0 (cuts T isS ws init 0 contig)) : FromCut C k contig 0 pre a := by
  rcases splitGeneric_some hk h with ⟨_, h⟩ | ⟨_, h⟩
  · cases pre <;> simp at h
  · exact build_at ws contig _ (Nat.zero_sub k).symm h.symm (cuts_ok_zero hT h0 isS ws contig) hC

/-! The next two lemmas read the data `contig[lo-k..e)` of a segment given by `FromCut … 0 pre a`; their
hypothesis `h` is its first/later alternative. -/

/-- The new symbols of the segment: all of it for the first one, otherwise what follows its `k` overlap
    symbols. -/
theorem fromCut_new_symbols {contig : List UInt8} {k lo e : Nat} {pre : List Segment}
    (h : pre = [] ∧ lo = 0 ∨ pre ≠ [] ∧ k ≤ lo) :
    (if pre = [] then (contig.take e).drop (lo - k) else ((contig.take e).drop (lo - k)).drop k)
      = (contig.take e).drop lo := by
  rcases h with ⟨hp, rfl⟩ | ⟨hp, hk⟩
  · rw [if_pos hp, Nat.zero_sub]
  · rw [if_neg hp, List.drop_drop, Nat.sub_add_cancel hk]

/-- The last `k` symbols of the segment are `contig[e-k..e)`. -/
theorem fromCut_last_k {contig : List UInt8} {k lo e : Nat} {pre : List Segment}
    (h : pre = [] ∧ lo = 0 ∨ pre ≠ [] ∧ k ≤ lo) (hlo : lo < e) (hk : k ≤ e) (he : e ≤ contig.length) :
    ((contig.take e).drop (lo - k)).drop (((contig.take e).drop (lo - k)).length - k)
      = (contig.take e).drop (e - k) := by
  have hs : lo - k + k ≤ e := by
    rcases h with ⟨_, rfl⟩ | ⟨_, hkl⟩
    · rw [Nat.zero_sub, Nat.zero_add]; exact hk
    · rw [Nat.sub_add_cancel hkl]; exact Nat.le_of_lt hlo
  rw [length_take_drop he, List.drop_drop, Nat.sub_sub, ← Nat.add_sub_assoc hs, Nat.add_sub_add_left]

/-! ### The `Kmer` tracker (only its `cur`/`k` counters matter here; no bit arithmetic) -/

@[simp] theorem kmerTracker_reset : kmerTracker.reset = Ragc.Kmer.reset := rfl
@[simp] theorem kmerTracker_insert : kmerTracker.insert = Ragc.Kmer.insert := rfl
@[simp] theorem kmerTracker_isFull : kmerTracker.isFull = Ragc.Kmer.isFull := rfl
@[simp] theorem kmerTracker_data : kmerTracker.data = Ragc.Kmer.data := rfl
@[simp] theorem kmerTracker_isDirOriented : kmerTracker.isDirOriented = Ragc.Kmer.isDirOriented := rfl

/-- "`km` belongs to a `k`-window and has had at most `n` inserts since the last reset". -/
def KmerAtMost (k : Nat) (km : Ragc.Kmer.Kmer) (n : Nat) : Prop := km.k = k ∧ km.cur ≤ n

theorem kmer_window (k : Nat) : kmerTracker.Window k (KmerAtMost k) where
  mono := fun _ _ _ h hle => ⟨h.1, Nat.le_trans h.2 hle⟩
  reset := fun _ _ h => ⟨h.1, Nat.le_refl _⟩
  insert := by
    intro s n b h
    show (Ragc.Kmer.insert s b).k = k ∧ (Ragc.Kmer.insert s b).cur ≤ n + 1
    unfold Ragc.Kmer.insert
    split
    · exact ⟨h.1, Nat.le_succ_of_le h.2⟩
    · exact ⟨h.1, Nat.succ_le_succ h.2⟩
  full := by
    intro s n h hf
    have : s.cur = s.k := eq_of_beq (show (s.cur == s.k) = true from hf)
    exact h.1 ▸ this ▸ h.2

theorem kmer_init (k : Nat) : KmerAtMost k (Ragc.Kmer.new k) 0 := ⟨rfl, Nat.le_refl _⟩

theorem kmer_reset_eq (k : Nat) (s : Ragc.Kmer.Kmer) (n : Nat) (h : KmerAtMost k s n) :
    kmerTracker.reset s = Ragc.Kmer.new k :=
  h.1 ▸ rfl

theorem splitConcrete_eq (withSize : Bool) (contig : List UInt8) (isSplitter : UInt64 → Bool) (k : Nat)
    (hk : 1 ≤ k) (hk32 : k ≤ 32) :
    splitConcrete withSize contig isSplitter k =
      splitGeneric kmerTracker (Ragc.Kmer.new k) isSplitter withSize k contig := by
  unfold splitConcrete
  by_cases hl : contig.length < k
  · rw [if_pos hl, splitGeneric, if_pos hl]
  · rw [if_neg hl, if_neg (by omega)]

theorem splitConcrete_some {ws : Bool} {contig : List UInt8} {isSplitter : UInt64 → Bool} {k : Nat}
    (hk : 1 ≤ k) (hk32 : k ≤ 32) {segs : List Segment}
    (h : splitConcrete ws contig isSplitter k = some segs) :
    splitGeneric kmerTracker (Ragc.Kmer.new k) isSplitter ws k contig = some segs := by
  rw [← splitConcrete_eq ws contig isSplitter k hk hk32]; exact h

theorem u8_gt3_iff (b : UInt8) : b.toUInt64 > 3 ↔ b > 3 := by
  show (3 : UInt64) < b.toUInt64 ↔ (3 : UInt8) < b
  rw [UInt64.lt_iff_toNat_lt, UInt8.lt_iff_toNat_lt]
  simp

theorem enum_kmerTracker : ∀ (l : List UInt8) (st : Ragc.Kmer.Kmer),
    kmerTracker.enum st l = Ragc.Kmer.enumLoop st (l.map UInt8.toUInt64) := by
  intro l
  induction l with
  | nil => intro st; rfl
  | cons b bs ih =>
    intro st
    simp only [Tracker.enum, List.map_cons, Ragc.Kmer.enumLoop, u8_gt3_iff, ih, kmerTracker_reset,
      kmerTracker_insert, kmerTracker_isFull, kmerTracker_data]

theorem feed_kmerTracker : ∀ (l : List UInt8) (st : Ragc.Kmer.Kmer),
    kmerTracker.feed st l = Ragc.Kmer.feed st (l.map UInt8.toUInt64) := by
  intro l
  induction l with
  | nil => intro st; rfl
  | cons b bs ih =>
    intro st
    simp only [Tracker.feed, List.map_cons, Ragc.Kmer.feed, u8_gt3_iff, ih, kmerTracker_reset, kmerTracker_insert]

theorem enum_kmer_eq (contig : List UInt8) (k : Nat) (hl : k ≤ contig.length) :
    kmerTracker.enum (Ragc.Kmer.new k) contig =
      Ragc.Kmer.enumerateKmers (contig.map UInt8.toUInt64) k := by
  rw [Ragc.Kmer.enumerateKmers, enum_kmerTracker, if_neg]
  rw [List.length_map]
  exact Nat.not_lt_of_le hl

/-! ### Concrete witnesses used by the non-vacuity examples of `Props/C10.lean` -/

/-- `ACA N CCACGGGACT` -/
def exContig : List UInt8 := [0, 1, 0, 4, 1, 1, 0, 1, 2, 2, 2, 0, 1, 3]

/-- canonical 3-mers `ACG`, `CCC` (= `GGG`), `GAC`: occurrences end at offsets 9, 11 and 13;
    the one at 11 overlaps the split at 9. -/
def exSpl : UInt64 → Bool :=
  fun v => v == 1729382256910270464 || v == 6052837899185946624 || v == 9511602413006487552

def exSegsWs : List Segment :=
  [{ data := [0, 1, 0, 4, 1, 1, 0, 1, 2], frontKmer := MISSING_KMER, backKmer := 1729382256910270464,
     frontKmerIsDir := false, backKmerIsDir := true },
   { data := [0, 1, 2, 2, 2, 0, 1], frontKmer := 1729382256910270464, backKmer := 9511602413006487552,
     frontKmerIsDir := true, backKmerIsDir := true },
   { data := [2, 0, 1, 3], frontKmer := 9511602413006487552, backKmer := MISSING_KMER,
     frontKmerIsDir := true, backKmerIsDir := false }]

def exSegsPlain : List Segment :=
  [{ data := [0, 1, 0, 4, 1, 1, 0, 1, 2], frontKmer := MISSING_KMER, backKmer := 1729382256910270464,
     frontKmerIsDir := false, backKmerIsDir := true },
   { data := [0, 1, 2, 2, 2], frontKmer := 1729382256910270464, backKmer := 6052837899185946624,
     frontKmerIsDir := true, backKmerIsDir := false },
   { data := [2, 2, 2, 0, 1], frontKmer := 6052837899185946624, backKmer := 9511602413006487552,
     frontKmerIsDir := false, backKmerIsDir := true },
   { data := [2, 0, 1, 3], frontKmer := 9511602413006487552, backKmer := MISSING_KMER,
     frontKmerIsDir := true, backKmerIsDir := false }]

theorem ex_ws : splitAtSplittersWithSize exContig exSpl 3 20 = some exSegsWs := by decide
theorem ex_plain : splitAtSplitters exContig exSpl 3 = some exSegsPlain := by decide

theorem ex_ws_generic :
    splitGeneric kmerTracker (Ragc.Kmer.new 3) exSpl true 3 exContig = some exSegsWs :=
  splitConcrete_some (by decide) (by decide) ex_ws

/-- A toy tracker (a saturating counter whose value is always 7) showing that the hypotheses of the
    tracker-generic theorems (`Tracker.Window`, reset-to-fresh, `WindowExact`) are jointly satisfiable. -/
def countTracker (k : Nat) : Tracker Nat where
  reset := fun _ => 0
  insert := fun n _ => if n = k then n else n + 1
  isFull := fun n => n == k
  data := fun _ => 7
  isDirOriented := fun _ => true

theorem countTracker_window (k : Nat) : (countTracker k).Window k (fun s n => s ≤ n) where
  mono := fun _ _ _ h hle => Nat.le_trans h hle
  reset := fun _ _ _ => Nat.le_refl _
  insert := by
    intro s n b h
    show (if s = k then s else s + 1) ≤ n + 1
    split
    · exact Nat.le_succ_of_le h
    · exact Nat.succ_le_succ h
  full := fun s n h hf => eq_of_beq (show (s == k) = true from hf) ▸ h

theorem countTracker_exact (k : Nat) : WindowExact (countTracker k) 0 k (fun _ => 7) :=
  fun _ _ _ _ => rfl

def exSegsCount : List Segment :=
  [{ data := [0, 1], frontKmer := MISSING_KMER, backKmer := 7, frontKmerIsDir := false, backKmerIsDir := true },
   { data := [0, 1, 4, 3, 0], frontKmer := 7, backKmer := 7, frontKmerIsDir := true, backKmerIsDir := true },
   { data := [3, 0, 9], frontKmer := 7, backKmer := MISSING_KMER, frontKmerIsDir := true, backKmerIsDir := false }]

theorem ex_count : splitGeneric (countTracker 2) 0 (fun v => v == 7) true 2 [0, 1, 4, 3, 0, 9] = some exSegsCount := by
  decide

end Ragc.Segment
