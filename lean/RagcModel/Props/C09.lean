import RagcModel.Lemmas.LzDiffEnc
import RagcModel.Lemmas.LzDiffTotal
/-!
C09 — LZ-diff decoding inverts encoding for every reference/target pair.

The model is `Model/LzDiff.lean` (`encode S mm ref tgt`, `decode mm ref bytes`, `decodeSeg`), the
encoder being parametrised by the candidate supplier `S` (which reference positions are tried for a
k-mer); `encodeExact` instantiates `S` with the linear-probing index of the Rust code. `encode`
returns `none` where the Rust panics: `mm < lzHashingStep` (outside the accepted range of
`min_match_len`) or a supplier that proposes a position whose k-mer does not fit into the padded
reference (never the case for the real index).

All theorems are for **every** supplier, every `min_match_len` in the accepted range, every
reference and every target; helper lemmas are in `Lemmas/LzDiff*.lean`.
-/
namespace Ragc.Props.C09
open Ragc.Model.LzDiff Ragc.Gen

/-- The literal codes the decoder accepts (`is_literal`): what the round-trip proof forces.
    Stated with the *generated* constant, so that widening `is_literal` in lz_diff.rs widens the
    theorem. -/
def codesOK (tgt : List Nat) : Prop := ∀ c, c ∈ tgt → c ≤ lzLiteralSpan

instance (tgt : List Nat) : Decidable (codesOK tgt) := by unfold codesOK; exact inferInstance

/-- The byte-level decoder on the byte form of well-formed tokens is the token-level decoder. -/
theorem decode_serialize (mm : Nat) (ref : List Nat) (ts : List Tok) (h : wellFormed mm ts) :
    decode mm ref (serialize mm ts) =
      (decToks (padRef mm ref) ref.length ts ([], 0)).map (fun st => st.1) :=
  decodeGo_serialize h #[] 0

example : decode 5 [0, 1, 2, 3, 0, 1, 2, 3] (serialize 5 [.lit 2, .bang, .nrun 6, .mtch (-1) (some 5), .mtch 0 none])
    = some [2, 1, 4, 4, 4, 4, 4, 4, 1, 2, 3, 0, 1, 2, 3] := by
  rw [decode_serialize _ _ _ (by decide)]; decide

example : serialize 5 [.lit 2, .bang, .nrun 6, .mtch (-1) (some 5), .mtch 0 none]
    = [67, 33, 30, 50, 4, 45, 49, 44, 48, 46, 48, 46] := by
  simp (disch := decide) only [serialize, serTok, appendInt, natDigits_lt]
  rfl

/-- **Loop invariant** (J of Appendix A.1; `Inv`): if, for every `j ≤ no_prev_literals`, the tokens
    without their `j` newest decode to `target[..i-j]` with `pred_pos - j`, then whatever the loop
    returns from that state decodes to the whole target — for every supplier. Preservation by the
    literal, N-run and match steps is `Inv.lit`, `Inv.nrun`, `Inv.mtch` (with `rewriteBang_sound`
    and `findBest_sound`); termination is by the measure `target.len() - i` in the definition of
    `encLoop` itself. -/
theorem encode_inv (S : UInt64 → List Nat) (mm : Nat) (hmm : lzHashingStep ≤ mm) (refP : Array Nat)
    (refLen : Nat) (t : Array Nat) (i pred npl : Nat) (toks : List Tok) (xprev : Option UInt64)
    (res : List Tok)
    (hinv : Inv refP refLen t i pred npl toks)
    (hres : encLoop S mm hmm refP refLen t i pred npl toks xprev = some res) :
    ∃ p, decToks refP refLen res.reverse ([], 0) = some (t.toList, p) :=
  encLoop_rule (P := Inv refP refLen t)
    (Q := fun res => ∃ p, decToks refP refLen res.reverse ([], 0) = some (t.toList, p))
    (fun hc h => h.lit hc) (fun _ h => h.nrun) (fun hm h => h.mtch hmm hm) (fun h => h.tail) hinv hres

theorem inv_init (refP : Array Nat) (refLen : Nat) (t : Array Nat) : Inv refP refLen t 0 0 0 [] := by
  intro j hj
  cases Nat.le_zero.mp hj
  rfl

/-- `encode` only answers for `min_match_len ≥ HASHING_STEP` (`key_len ≥ 1`). -/
theorem encode_some_range {S : UInt64 → List Nat} {mm : Nat} {ref tgt enc : List Nat}
    (h : encode S mm ref tgt = some enc) : lzHashingStep ≤ mm := by
  by_cases hmm : lzHashingStep ≤ mm
  · exact hmm
  · rw [encode, encodeToks, dif_neg hmm] at h
    cases h

/-- The tokens the encoder emits: none when the target is the reference; otherwise they decode to
    the target, and they are well formed when the target's codes are literal codes of the decoder. -/
theorem encodeToks_spec {S : UInt64 → List Nat} {mm : Nat} {ref tgt : List Nat} {ts : List Tok}
    (h : encodeToks S mm ref tgt = some ts) :
    (tgt = ref ∧ ts = []) ∨
    (tgt ≠ ref ∧ (∃ p, decToks (padRef mm ref) ref.length ts ([], 0) = some (tgt, p)) ∧
      (∀ P : Nat → Prop, (∀ c, c ∈ tgt → P c) → ∀ x, x ∈ ts → TokAll mm P x) ∧
      (ts = [] ↔ tgt = [])) := by
  unfold encodeToks at h
  split at h
  · next hmm =>
    split at h
    · next heq => exact Or.inl ⟨(eqTest_iff mm ref tgt).mp heq, (Option.some.inj h).symm⟩
    · next hne =>
      obtain ⟨res, hl, rfl⟩ := Option.map_eq_some_iff.mp h
      refine Or.inr ⟨mt (eqTest_iff mm ref tgt).mpr hne, ?_, ?_, ?_, ?_⟩
      · exact encode_inv S mm hmm _ _ _ 0 0 0 [] none res (inv_init _ _ _) hl
      · intro P hP x hx
        exact encLoop_tokAll P hP (fun _ h => absurd h List.not_mem_nil) hl x (List.mem_reverse.mp hx)
      · intro hnil
        apply Classical.byContradiction
        intro htne
        exact encLoop_ne_nil (Or.inr (List.length_pos_iff.mpr htne)) hl (List.reverse_eq_nil_iff.mp hnil)
      · rintro rfl
        rw [encLoop_done (h := Nat.not_lt_zero _)] at hl
        cases hl
        rfl
  · cases h

/-- **Raw round trip.** For every supplier, every accepted `min_match_len`, every reference and
    every target different from the reference (also the empty one) whose codes are literal codes of
    the decoder: `LZDiff::decode` on the encoder's bytes returns the target. -/
theorem lz_roundtrip_raw (S : UInt64 → List Nat) (mm : Nat) (ref tgt enc : List Nat)
    (hc : codesOK tgt) (hne : tgt ≠ ref) (henc : encode S mm ref tgt = some enc) :
    decode mm ref enc = some tgt := by
  obtain ⟨ts, hts, rfl⟩ := Option.map_eq_some_iff.mp henc
  rcases encodeToks_spec hts with ⟨h, _⟩ | ⟨_, ⟨p, hdec⟩, hall, _⟩
  · exact absurd h hne
  · rw [decode_serialize mm ref ts (fun x hx => (hall _ hc x hx).wf), hdec]
    rfl

/-- **The encoding is empty exactly when the target equals the reference (or is itself empty).** -/
theorem encode_empty_iff (S : UInt64 → List Nat) (mm : Nat) (ref tgt enc : List Nat)
    (henc : encode S mm ref tgt = some enc) : enc = [] ↔ (tgt = ref ∨ tgt = []) := by
  obtain ⟨ts, hts, rfl⟩ := Option.map_eq_some_iff.mp henc
  rw [serialize_eq_nil]
  rcases encodeToks_spec hts with ⟨h, rfl⟩ | ⟨hne, _, _, hnil⟩
  · exact iff_of_true rfl (Or.inl h)
  · rw [hnil]
    exact ⟨Or.inr, fun h => h.resolve_left hne⟩

/-- **C09 round trip**, as the reader uses the decoder (`decodeSeg`: an empty delta stands for the
    reference, decompressor.rs 866-871): for every supplier, every accepted `min_match_len`, every
    reference and every non-empty target whose codes are literal codes of the decoder, decoding the
    encoder's output against the same reference returns the target exactly.

    The full statement of the property (all codes `0..15` and `30`) is
    `∀ tgt, (∀ c ∈ tgt, c ≤ 15 ∨ c = 30) → tgt ≠ [] → …`; it follows from this theorem as soon as
    `lzLiteralSpan ≥ 30`, which holds on the current tree (`ragc_codes_ok`, `lz_code30_roundtrip`). -/
theorem lz_roundtrip (S : UInt64 → List Nat) (mm : Nat) (ref tgt enc : List Nat)
    (hc : codesOK tgt) (hne : tgt ≠ []) (henc : encode S mm ref tgt = some enc) :
    decodeSeg mm ref enc = some tgt := by
  unfold decodeSeg
  have hiff := encode_empty_iff S mm ref tgt enc henc
  by_cases he : enc = []
  · rw [if_pos he]
    rcases hiff.mp he with h | h
    · rw [h]
    · exact absurd h hne
  · rw [if_neg he]
    have : tgt ≠ ref := fun h => he (hiff.mpr (Or.inl h))
    exact lz_roundtrip_raw S mm ref tgt enc hc this henc

/-- **No pack separator.** The encoding never contains 0xFF (for symbol codes below 190, in
    particular for `0..15` and `30`). -/
theorem no_separator (S : UInt64 → List Nat) (mm : Nat) (ref tgt enc : List Nat)
    (hc : ∀ c, c ∈ tgt → c < 190) (henc : encode S mm ref tgt = some enc) : contigSeparator ∉ enc := by
  obtain ⟨ts, hts, rfl⟩ := Option.map_eq_some_iff.mp henc
  rcases encodeToks_spec hts with ⟨_, rfl⟩ | ⟨_, _, hall, _⟩
  · exact List.not_mem_nil
  · intro hmem
    obtain ⟨x, hx, hb⟩ := List.mem_flatMap.mp (serialize_eq_flatMap mm ts ▸ hmem)
    exact absurd (serTok_lt mm x (hall _ hc x hx) _ hb) (by decide)

/-! ### The theorems for the real index (`encodeExact` = `LZDiff::encode`) -/

/-- **`encode` is total** for every supplier that only proposes positions which are skipped
    (`≥ |reference|`) or leave room for a k-mer in the padded reference, and every accepted
    `min_match_len`; the real index is such a supplier (`exactSupplier_ok`: the table only stores
    `i / HASHING_STEP` for multiples `i` of `HASHING_STEP` with `i + key_len < |reference|`). -/
theorem encode_total (S : UInt64 → List Nat) (mm : Nat) (ref tgt : List Nat) (hmm : lzHashingStep ≤ mm)
    (hS : SupOK S (padRef mm ref) (keyLen mm)) : ∃ enc, encode S mm ref tgt = some enc :=
  encode_isSome S mm ref tgt hmm hS

/-- **C09 for the real encoder.** For every `min_match_len ≥ HASHING_STEP`, every reference and every
    non-empty target whose codes are literal codes of the decoder: `LZDiff::encode` returns (does not
    panic), decoding its output against the same reference returns the target exactly, the output
    is empty exactly when the target equals the reference, and it does not contain 0xFF. -/
theorem lz_roundtrip_exact (mm : Nat) (ref tgt : List Nat) (hmm : lzHashingStep ≤ mm)
    (hc : codesOK tgt) (hne : tgt ≠ []) :
    ∃ enc, encodeExact mm ref tgt = some enc ∧ decodeSeg mm ref enc = some tgt ∧
      (enc = [] ↔ tgt = ref) ∧ contigSeparator ∉ enc := by
  obtain ⟨enc, henc⟩ := encode_total _ mm ref tgt hmm (exactSupplier_ok mm (padRef mm ref))
  refine ⟨enc, by rw [encodeExact_eq]; exact henc, lz_roundtrip _ mm ref tgt enc hc hne henc, ?_, ?_⟩
  · exact (encode_empty_iff _ mm ref tgt enc henc).trans (or_iff_left hne)
  · have hspan : lzLiteralSpan < 190 := by decide
    exact no_separator _ mm ref tgt enc (fun c hcm => Nat.lt_of_le_of_lt (hc c hcm) hspan) henc

example : lzHashingStep ≤ 5 ∧ lzHashingStep ≤ 32 := by decide

/-- **The encoding determines the target.** Against one reference and with one minimum match length,
    two non-empty targets with the same encoding are the same target — for any candidate suppliers,
    even two different ones (e.g. two builds whose indexes resolve collisions differently). This is
    what lets equal delta bytes inside a pack be stored once. -/
theorem lz_encode_injective (S S' : UInt64 → List Nat) (mm : Nat) (ref t t' enc : List Nat)
    (hc : codesOK t) (hc' : codesOK t') (hne : t ≠ []) (hne' : t' ≠ [])
    (h : encode S mm ref t = some enc) (h' : encode S' mm ref t' = some enc) : t = t' := by
  have h1 := lz_roundtrip S mm ref t enc hc hne h
  rw [lz_roundtrip S' mm ref t' enc hc' hne' h'] at h1
  exact (Option.some.inj h1).symm

/-- … in particular for the real encoder. -/
theorem lz_encode_injective_exact (mm : Nat) (ref t t' : List Nat) (hmm : lzHashingStep ≤ mm)
    (hc : codesOK t) (hc' : codesOK t') (hne : t ≠ []) (hne' : t' ≠ [])
    (h : encodeExact mm ref t = encodeExact mm ref t') : t = t' := by
  obtain ⟨enc, he, _⟩ := lz_roundtrip_exact mm ref t hmm hc hne
  have he' : encodeExact mm ref t' = some enc := by rw [← h]; exact he
  rw [encodeExact_eq] at he he'
  exact lz_encode_injective _ _ mm ref t t' enc hc hc' hne hne' he he'

example : codesOK [0, 1, 3, 3, 0, 1, 2, 3, 2, 2] ∧ codesOK [30, 2] := by decide

/-- Non-vacuity, on the real index: reference `ACGTACGTGG`, target `ACTTACGTGG`, min-match 5. The run
    takes the skip-1 k-mer path, emits four literals, finds the match at `h_pos = 4` with a backward
    extension of 1 (one literal popped), rewrites one literal to `!` under the scan bound, and
    elides the length (match to the end): tokens `A ! D 0.`; and the round trip holds. -/
example : encodeToks (exactSupplier 5 (padRef 5 [0, 1, 2, 3, 0, 1, 2, 3, 2, 2])) 5
      [0, 1, 2, 3, 0, 1, 2, 3, 2, 2] [0, 1, 3, 3, 0, 1, 2, 3, 2, 2]
    = some [.lit 0, .bang, .lit 3, .mtch 0 none] := by
  rw [encodeToks_loop (hmm := by decide) (hne := by decide)]
  have hidx : buildIndex (padRef 5 [0, 1, 2, 3, 0, 1, 2, 3, 2, 2]) (keyLen 5) =
      #[4294967295, 4294967295, 4294967295, 4294967295, 0, 1, 2, 4294967295] := by
    unfold buildIndex
    rw [insertLoop_ok (code := 1) (h := by decide) (hc := by decide)]
    rw [insertLoop_ok (code := 1) (h := by decide) (hc := by decide)]
    rw [insertLoop_ok (code := 10) (h := by decide) (hc := by decide)]
    rw [insertLoop_done (h := by decide)]
    decide
  unfold exactSupplier
  rw [hidx]
  rw [encLoop_lit_nomatch (code := 1) (c := 0) (hlt := by decide) (hx := by decide) (hf := by decide)
    (hc := by decide)]
  rw [encLoop_lit_nomatch (code := 7) (c := 1) (hlt := by decide) (hx := by decide) (hf := by decide)
    (hc := by decide)]
  rw [encLoop_lit_nomatch (code := 15) (c := 3) (hlt := by decide) (hx := by decide) (hf := by decide)
    (hc := by decide)]
  rw [encLoop_lit_nomatch (code := 12) (c := 3) (hlt := by decide) (hx := by decide) (hf := by decide)
    (hc := by decide)]
  rw [encLoop_found (code := 1) (mpos := 4) (bck := 1) (fwd := 6) (hlt := by decide) (hx := by decide)
    (hf := by decide)]
  rw [encLoop_done (h := by decide)]
  decide

example : codesOK [0, 1, 3, 3, 0, 1, 2, 3, 2, 2] ∧ [0, 1, 3, 3, 0, 1, 2, 3, 2, 2] ≠ [] := by decide

/-! ### The unknown-letter code 30 (defect D2, repaired in /repo commit 2ddb47d)

Before the repair `is_literal` accepted only `'A' ..= 'A'+20`: the encoder emitted the literal byte
`'A' + 30 = '_'` (95) for code 30 and the decoder took it for a match and panicked; the theorem
`lz_code30_not_decodable` (`encodeExact 5 [] [30] = some [95] ∧ decode 5 [] [95] = none`) was
proved against the table generated from that source. With the regenerated `Gen.lzLiteralSpan`
the same target is inside `codesOK`, so `lz_roundtrip` covers it; the statements below pin that the
codes ragc produces (0..15, 30, and the filler 32) are all literal-safe on the current tree. -/

/-- Every symbol code ragc can produce is inside the literal range the decoder accepts. -/
theorem ragc_codes_ok : ∀ c ∈ (List.range 16 ++ [30, 32]), c ≤ Ragc.Gen.lzLiteralSpan := by decide

/-- Code 30 now round-trips (concrete instance of `lz_roundtrip` through the real index). -/
theorem lz_code30_roundtrip :
    encodeExact 5 [] [30] = some [95] ∧ decodeSeg 5 [] [95] = some [30] := by
  have h1 : encodeExact 5 [] [30] = some [95] := by
    rw [encodeExact_eq]
    unfold encode
    rw [encodeToks_loop (hmm := by decide) (hne := by decide)]
    rw [encLoop_done (h := by decide)]
    decide
  refine ⟨h1, ?_⟩
  obtain ⟨enc, he, hrt, _⟩ := lz_roundtrip_exact 5 [] [30] (by decide) (by decide) (by decide)
  rw [h1] at he
  cases he
  exact hrt

example : codesOK [30] := by decide

end Ragc.Props.C09
