import RagcModel.Model.Fasta
import RagcModel.Lemmas.Fasta
import RagcModel.Model.EndToEnd
import RagcModel.Lemmas.EndToEndDemo
import RagcModel.Props.C01
import RagcModel.Props.C17
import RagcModel.Props.C19
/-!
# C16 — every successfully created archive is fully extractable (any FASTA text)

Model: `RagcModel/Model/Fasta.lean` (genome_io.rs `read_contig_raw` / `read_contig_impl` /
`GenomeWriter`, contig_iterator.rs sample naming, decompressor.rs output letters, main.rs skip of
empty sequences), with the letter table `Ragc.Gen.cnvNum` regenerated from genome_io.rs on every
run. The FASTA side of the property is decided here; that the archive stores and returns the codes
it is given is C01/C09 (the LZ literal for code 30 is D2, outside this file).

Result (model of the reader after the D9 repair — blank lines in front of a header are skipped, a
header without sequence is an empty contig, a record without a name is an error): the letter
mapping and the normalisation are as documented (with one precisely stated exception: the 11
non-letter bytes above `@`), every presentation of well-formed records parses to the same thing
(`parse_render`), and no record with a base is dropped (`no_record_dropped`, full statement).

Last section — the composition with C01 (`read_write`: decode ∘ write = id for ALL decisions) and C17
(`getset_concat`): `Model/EndToEnd.lean` composes the layer models into `createModel` (text in,
archive bytes out) and `extractModel` (archive bytes in, text out), and `create_extract_text` is the
property's sentence as ONE theorem over text; `create_extract_presentation` (C19 through the
archive) and `getset_of_create` (C17 on the decoded archive) are corollaries. What is still outside
is listed in the comment block at the end of the file.
-/
namespace Ragc.Props.C16
open Ragc.Fasta

/-- The generated 128-entry table, completely: it has 128 entries and bytes `≤ 64` are dropped
before it is consulted (`keepAbove`); every ASCII letter maps to a code in `0..15` or to `30`,
upper and lower case agree; the code is `< 16` exactly for the 16 IUPAC letters, which map to
`0..15` bijectively (the `i`-th letter of `ACGTNRYSWKMBDHVU` has code `i`); the 11 non-letters
above `@` are **not** dropped: the back quote maps to 32, the ten others (`[ \ ] ^ _ { | } ~` DEL) to 30. -/
theorem letter_codes :
    Ragc.Gen.cnvNum.length = 128 ∧ Ragc.Gen.keepAbove = 64 ∧
    (∀ b, b < 128 → isLetter b = true →
      (cnv b < 16 ∨ cnv b = 30) ∧ cnv (toUpper b) = cnv b ∧ cnv (toLower b) = cnv b ∧
      (cnv b < 16 ↔ iupac.contains (toUpper b) = true)) ∧
    iupac.map cnv = List.range 16 ∧
    (∀ b, b < 128 → isHighPunct b = true → cnv b = if b = 96 then 32 else 30) ∧
    (∀ b, b < 128 → (64 < b ↔ (isLetter b = true ∨ isHighPunct b = true))) := by
  refine ⟨cnvNum_length, rfl, fun b _ h => ⟨?_, cnv_case h false, cnv_case h true, ?_⟩,
    by decide +kernel, fun b hb h => ?_, fun b hb => ?_⟩
  · rw [cnv_letter h]
    split
    · exact Or.inl (List.idxOf_lt_length_of_mem (List.contains_iff_mem.mp ‹_›))
    · exact Or.inr rfl
  · rw [cnv_letter h]
    split
    · exact iff_of_true (List.idxOf_lt_length_of_mem (List.contains_iff_mem.mp ‹_›)) ‹_›
    · exact iff_of_false (by decide) ‹_›
  · have hp := isHighPunct_iff.mp h
    have hl : ¬ isLetter b = true := fun hl => by rw [not_letter_and_punct hl] at h; cases h
    rw [cnv_kept (by omega) hb, if_neg hl]
  · rw [isLetter_iff, isHighPunct_iff]
    omega

-- `decide +kernel` (here and in the examples below) only evaluates closed terms of the executable
-- models; it is not a step of any theorem.
example : cnv 71 = 2 ∧ cnv 103 = 2 ∧ cnv 88 = 30 ∧ cnv 95 = 30 ∧ cnv 96 = 32 := by decide +kernel

/-- Reading back: the output letter of a letter's code is the letter in upper case if it is one
of the 16 IUPAC letters and `N` otherwise; every code `≥ 16` (30, 32, anything) reads back as `N`. -/
theorem out_letter_code :
    (∀ b, b < 128 → isLetter b = true →
      outLetter (cnv b) = if iupac.contains (toUpper b) then toUpper b else 78) ∧
    (∀ c, 16 ≤ c → outLetter c = 78) := by
  constructor
  · intro b hb h
    rw [outLetter_cnv (by have := isLetter_iff.mp h; omega) hb, if_pos h, normLetter]
  · intro c hc
    rw [outLetter, if_neg (Nat.not_lt.mpr hc)]

example : outLetter (cnv 114) = 82 ∧ outLetter (cnv 120) = 78 ∧ outLetter 30 = 78 := by decide +kernel

/-- Conversion followed by read-back is the documented normalisation (non-letters dropped, upper
case, letters outside the IUPAC set → `N`) of every sequence text that does not contain one of the
11 non-letter bytes above `@`. -/
theorem convert_normalise (raw : Bytes) (h : ∀ b ∈ raw, isHighPunct b = false) :
    (convert raw).map outLetter = normalise raw := by
  rw [convert_map_outLetter, normaliseCode_eq_normalise h]

example : (∀ b ∈ [97, 67, 45, 10, 120, 13, 78, 49], isHighPunct b = false) ∧
    normalise [97, 67, 45, 10, 120, 13, 78, 49] = [65, 67, 78, 78] := by decide +kernel

/-- … and for ALL byte strings it is `normaliseCode`: as documented, except that those 11 bytes
are kept and read back as `N`. -/
theorem convert_normalise_general (raw : Bytes) :
    (convert raw).map outLetter = normaliseCode raw :=
  convert_map_outLetter raw

/-- The exception is real: `A[C` reads back as `ANC`, the documented normalisation is `AC`. -/
theorem convert_normalise_high_punct_witness :
    (convert [65, 91, 67]).map outLetter = [65, 78, 67] ∧ normalise [65, 91, 67] = [65, 67] := by
  decide +kernel

/-- Every presentation of records parses to the same thing: for every line width `≥ 1` per
record, LF or CRLF per record, any case pattern, with or without final newline. Records: header
without `\n` whose id is not empty, at least one base, all letters. -/
theorem parse_render (fin : Bool) (recs : List (Rec × RecStyle)) (h : ValidPres recs) :
    parseFile (render fin recs) = some (canon (recs.map (·.1))) :=
  parseFile_render fin recs h

example : ValidPres [(⟨[99, 49, 32, 120], [65, 99, 71, 116, 120]⟩, ⟨2, true, [true, false]⟩),
      (⟨[99, 50], [78]⟩, ⟨1, false, []⟩)] ∧
    canon [⟨[99, 49, 32, 120], [65, 99, 71, 116, 120]⟩, ⟨[99, 50], [78]⟩]
      = [([99, 49, 32, 120], [0, 1, 2, 3, 30]), ([99, 50], [4])] := by decide +kernel

/-- The FASTA text `getset` writes for a sample (`write_sample_fasta`: `>name`, 80 columns, LF, upper
case, code `< 16` → its letter, anything else → `N`) parses back to the same names and the same
codes (a code `≥ 16` comes back as 4 = `N`): re-creating from an extraction loses nothing. -/
theorem write_read_roundtrip (contigs : List (Bytes × Bytes)) (h : ∀ c ∈ contigs, ValidContig c) :
    parseFile (writeFasta contigs) = some (contigs.map (fun c => (c.1, c.2.map reread))) := by
  rw [writeFasta_eq_render, parseFile_render true _ (validPres_of_contigs contigs h),
    canon_of_contigs contigs h]

set_option maxRecDepth 8192 in
example : (∀ c ∈ [([99, 49], [0, 1, 2, 3, 15, 30]), ([99, 32, 50], [4])], ValidContig c) ∧
    [([99, 49], [0, 1, 2, 3, 15, 30]), ([99, 32, 50], [4])].map (fun c => (c.1, c.2.map reread))
      = [([99, 49], [0, 1, 2, 3, 15, 4]), ([99, 32, 50], [4])] := by decide +kernel

/-- The reader loop, exactly: leading blank lines are skipped; then every record of the text is
returned, in order, with its id and its codes (also records without any line: empty codes, which
main.rs skips) — unless some record has no name, in which case reading fails (`create` exits
with an error). -/
theorem reader_complete (t : Bytes) : parseFile t = readRecords (specRecords t) :=
  parseFile_eq t

/-- For well-formed FASTA text (after leading blank lines the first line is a header line, every
header has a name) reading succeeds and what `create` pushes is exactly, in order, every record
that has a base: nothing is left out. -/
theorem no_record_dropped (t : Bytes) (hwf : wellFormedText t = true) : NoRecordDropped t := by
  exact noRecordDropped_of_good t (Ragc.EndToEnd.good_of_wellFormed t hwf)

/-- `\n \n>a\nAC\n\n>e\n>b\n \n>c\ngt`: leading blank lines, blank line inside, a record without any
line, a record with only a blank line, no final newline. -/
def exText : Bytes :=
  [10, 32, 10, 62, 97, 10, 65, 67, 10, 10, 62, 101, 10, 62, 98, 10, 32, 10, 62, 99, 10, 103, 116]

set_option maxRecDepth 8192 in
example : wellFormedText exText = true ∧
    (specRecords exText).map (fun p => headerId p.1) = [[97], [101], [98], [99]] ∧
    ((specRecords exText).filter hasBase).map (fun p => headerId p.1) = [[97], [99]] := by decide +kernel

/-- `>a\n>b\nAC\n`: a record without sequence before a record with bases (dropped `b` before
the repair). -/
def afterEmptyRecord : Bytes := [62, 97, 10, 62, 98, 10, 65, 67, 10]
/-- `\n>a\nAC\n`: a leading blank line (dropped everything before the repair). -/
def afterLeadingBlank : Bytes := [10, 62, 97, 10, 65, 67, 10]

/-- The two former defect witnesses now give `create` their records. -/
theorem former_witnesses_kept :
    createInput afterEmptyRecord = some [([98], [0, 1])] ∧
    createInput afterLeadingBlank = some [([97], [0, 1])] := by
  simp only [createInput, parseFile_eq]; decide +kernel

/-- A record without a name makes reading fail (`create` exits with an error) — it is not taken
for the end of the input. -/
theorem empty_name_is_error (t : Bytes) (h : (specRecords t).any (fun p => headerId p.1 = []) = true) :
    parseFile t = none := by
  rw [parseFile_eq, readRecords, Ragc.EndToEnd.all_good_eq_false h]
  rfl

set_option maxRecDepth 8192 in
/-- `>  \nAC\n>b\nAC\n` -/
example : parseFile [62, 32, 32, 10, 65, 67, 10, 62, 98, 10, 65, 67, 10] = none := by
  apply empty_name_is_error; decide +kernel

/-! ## create then extract, over TEXT (composition of C16 + C01 + C17)

`Model/EndToEnd.lean`: `createModel cfg files dec zc` = parse every input file (`parseFile`), name
samples as `MultiFileIterator` does, skip records without a base, register in first-seen order,
`Writer.writeArchive` with the compressor's choices `dec` as data; `extractModel bs zd s` = the
independent decoder, look `s` up, `outLetter`, `GenomeWriter` layout.

Vocabulary (all in `Lemmas/EndToEnd.lean`, all computable):
* `textRecords files` — the records of the input TEXT that have a base, in command-line / file
  order, as `(sample, name, raw sequence lines)`: over `specRecords` (leading blank lines do not
  count, a record is a header line and every line up to the next one), `name = headerId` of the
  header line, `sample` = the PanSN part of the name if it has ≥ 3 `#`-fields, else the file stem;
* `recordsOfSample norm recs s` — the `(name, norm sequence)` of the records of sample `s`, in order;
* `fastaText` — `>name`, 80 columns, LF;
* `inputOf files` — the compressor's input as a function of the text (`DecisionsOK` speaks about it);
* `admissible files` — `createSamples` accepts: at least one file, every path names a file and
  every record has a name (`readable`), not (one file with a sample name coming back after another
  sample), no empty sample name, no two records with a base under the same (sample, name).
-/

section EndToEnd
open Ragc.EndToEnd

/-- **When `createModel` answers**, exactly: the inputs are `admissible` and the reference writer
answers on `inputOf files`. Every other case is `none` — `createOutcome` says which: an error exit
(`noInputs`, `emptyName`, `unsortedSingleFile`) or outside the composed model (`badPath`,
`emptySampleName`, `writer`; `duplicateContig` is an error exit since repair D13). -/
theorem create_answers_iff (cfg : Ragc.Writer.Cfg) (files : List InFile) (dec : Ragc.Writer.Decisions)
    (zc : Nat → List Nat → List Nat) (bs : List Nat) :
    createModel cfg files dec zc = some bs ↔
      admissible files ∧ Ragc.Writer.writeArchive cfg (inputOf files) dec zc = some bs :=
  createModel_some_iff cfg files dec zc bs

/-- the input the compressor gets from `exFiles`: sample `A` (file stem) with `c`, `d`; sample
`B#1` (PanSN) with `B#1#c` -/
def exInp : List Ragc.Writer.Sample :=
  [⟨[65], [⟨[99], [0, 1, 2, 3, 0, 1, 2, 3, 0, 1]⟩, ⟨[100], [2, 4, 1]⟩]⟩,
   ⟨[66, 35, 49], [⟨[66, 35, 49, 35, 99], [0, 1, 2, 2, 0, 1, 2, 3, 0, 1]⟩]⟩]

set_option maxRecDepth 100000 in
example : ∃ bs, createModel exCfg exFiles exDec zcToy = some bs := create_exFiles

/-- **The error side.** A record without a name in any input file: there is no archive
(`create` exits with an error; if an earlier path is outside the model the outcome is `outside`) —
and, for texts that are well formed in the sense of `no_record_dropped` (`wellFormedText`: after
leading blank lines the first line is a header line, every header has a name), reading never is
the reason why `create` fails. -/
theorem create_error_side (cfg : Ragc.Writer.Cfg) (files : List InFile) (dec : Ragc.Writer.Decisions)
    (zc : Nat → List Nat → List Nat) :
    ((∃ f ∈ files, (specRecords f.2).any (fun p => headerId p.1 = []) = true) →
      createModel cfg files dec zc = none) ∧
    ((∀ f ∈ files, wellFormedText f.2 = true) →
      createOutcome cfg files dec zc ≠ .error (.error .emptyName)) := by
  constructor
  · rintro ⟨f, hf, hany⟩
    cases hc : createModel cfg files dec zc with
    | none => rfl
    | some bs =>
      have hr := ((create_answers_iff cfg files dec zc bs).mp hc).1.2.1 f hf
      rw [readable, all_good_eq_false hany, Bool.and_false] at hr
      cases hr
  · intro hwf
    exact createOutcome_ne_emptyName cfg files dec zc fun f hf => good_of_wellFormed f.2 (hwf f hf)

set_option maxRecDepth 8192 in
/-- `A.fa` = `>  \nAC\n`: no archive. -/
example : createModel exCfg [([65, 46, 102, 97], [62, 32, 32, 10, 65, 67, 10])] exDec zcToy = none :=
  (create_error_side _ _ _ _).1 ⟨_, List.mem_singleton.mpr rfl, by decide +kernel⟩

/-- **create then extract, general form**: for ALL byte strings as input texts (no
well-formedness asked: `createModel = some` already says every record has a name). As
`create_extract_text` below, with `normaliseCode` in place of `normalise`: the documented
normalisation except that the 11 non-letter bytes above `@` are kept and read back as `N`
(`convert_normalise_general`). -/
theorem create_extract_text_general (cfg : Ragc.Writer.Cfg) (files : List InFile)
    (dec : Ragc.Writer.Decisions) (zc : Nat → List Nat → List Nat) (zd : List Nat → Option (List Nat))
    (bs : List Nat) (hdec : Ragc.Writer.DecisionsOK cfg (inputOf files) dec)
    (hz : ∀ l x, zd (zc l x) = some x) (hne : ∀ l x, zc l x = [] → x = [])
    (hc : createModel cfg files dec zc = some bs) :
    listModel bs zd = some (Ragc.Details.firstSeen ((textRecords files).map (·.1))) ∧
    (∀ s, extractModel bs zd s =
      if s ∈ (textRecords files).map (·.1) then
        some (fastaText (recordsOfSample normaliseCode (textRecords files) s))
      else none) ∧
    ∃ d, Ragc.Agc3.decodeArchive bs zd = .ok d ∧ d.violations = [] ∧
      (∀ f ∈ files, ∀ p ∈ specRecords f.2, hasBase p = true →
        ∃ smp ∈ d.samples, smp.name = sampleOf (fileSample f.1) (headerId p.1) ∧
          ∃ c ∈ smp.contigs, c.name = headerId p.1 ∧ c.bases.map outLetter = normaliseCode p.2) := by
  obtain ⟨d, h1, h2, h3, h4, h5⟩ := extract_of_create cfg files dec zc zd bs hdec hz hne hc
  rw [viewS_inputOf] at h3 h4 h5
  refine ⟨?_, ?_, d, h1, h2, ?_⟩
  · rw [h4, List.map_map]
    exact congrArg some (List.map_id' _)
  · intro s
    rw [h5 s, find_map_name]
    simp only [Ragc.Details.mem_firstSeen, apply_ite (Option.map _), Option.map_some, Option.map_none,
      writeFasta_eq_fastaText, recordsOfSample_letters]
  · intro f hf p hp hb
    obtain ⟨smp, a1, a2, c, a3, a4, a5⟩ := record_in_view (textRecords files) d.samples h3 _
      ((mem_textRecords files _).mpr ⟨f, hf, p, hp, hb, rfl⟩)
    exact ⟨smp, a1, a2, c, a3, a4, by rw [a5]; exact convert_map_outLetter p.2⟩

set_option maxRecDepth 100000 in
example : Ragc.Writer.DecisionsOK exCfg (inputOf exFiles) exDec ∧
    (∀ l x, zdToy (zcToy l x) = some x) ∧ (∀ l x, zcToy l x = [] → x = []) :=
  ⟨exDec_ok, zdToy_zcToy, zcToy_ne_nil⟩

/-- **C16 ∘ C01 over text: create then extract.** For every list of `(path, text)` inputs whose
texts are well formed (`wellFormedText`, the predicate of `no_record_dropped`: after leading blank
lines the first line is a header line, and every header has a non-empty name) and whose sequence
lines are free of the 11 non-letter bytes above `@` (`SeqClean`; C16 quantifies over letters,
digits and gaps), every configuration and ALL decisions of the compressor that are well formed for
the input (`DecisionsOK`: `k ≥ 1`, `u32` parameters, names over the bytes 1..127, any tiling of each
contig, any group / orientation / arrival order / group creation order / tuple flags), any ZSTD
pair with the two C12 facts:

* reading is never why `create` fails (the repaired reader errs only on a record without a name,
  `create_error_side`); and whenever `createModel` answers with archive bytes `bs`,
* `listset` is the list of sample names of the text's records in first-seen order,
* for EVERY sample `s` of that list `extractModel bs zd s` is exactly the `GenomeWriter` text of
  the records of `s`, in input order, each with its name and its sequence under the documented
  normalisation (`normalise`: non-letters dropped, upper case, letters outside the IUPAC set → `N`);
  any other name is not found,
* the archive decodes with NO breached format rule, and every record of every input file that has
  at least one base is a contig of its sample with exactly its normalised sequence: none is left out.

`wellFormedText` is used for the first item only: `createModel = some` by itself implies that
every record has a name (`create_extract_text_general` is the statement without it). -/
theorem create_extract_text (cfg : Ragc.Writer.Cfg) (files : List InFile)
    (dec : Ragc.Writer.Decisions) (zc : Nat → List Nat → List Nat) (zd : List Nat → Option (List Nat))
    (hwf : ∀ f ∈ files, wellFormedText f.2 = true) (hclean : SeqClean files)
    (hdec : Ragc.Writer.DecisionsOK cfg (inputOf files) dec)
    (hz : ∀ l x, zd (zc l x) = some x) (hne : ∀ l x, zc l x = [] → x = []) :
    createOutcome cfg files dec zc ≠ .error (.error .emptyName) ∧
    ∀ bs, createModel cfg files dec zc = some bs →
      listModel bs zd = some (Ragc.Details.firstSeen ((textRecords files).map (·.1))) ∧
      (∀ s ∈ Ragc.Details.firstSeen ((textRecords files).map (·.1)),
        extractModel bs zd s = some (fastaText (recordsOfSample normalise (textRecords files) s))) ∧
      (∀ s, s ∉ Ragc.Details.firstSeen ((textRecords files).map (·.1)) → extractModel bs zd s = none) ∧
      ∃ d, Ragc.Agc3.decodeArchive bs zd = .ok d ∧ d.violations = [] ∧
        (∀ f ∈ files, ∀ p ∈ specRecords f.2, hasBase p = true →
          ∃ smp ∈ d.samples, smp.name = sampleOf (fileSample f.1) (headerId p.1) ∧
            ∃ c ∈ smp.contigs, c.name = headerId p.1 ∧ c.bases.map outLetter = normalise p.2) := by
  refine ⟨(create_error_side cfg files dec zc).2 hwf, ?_⟩
  intro bs hc
  obtain ⟨h1, h2, d, h3, h4, h5⟩ := create_extract_text_general cfg files dec zc zd bs hdec hz hne hc
  refine ⟨h1, ?_, ?_, d, h3, h4, ?_⟩
  · intro s hs
    have hm := (Ragc.Details.mem_firstSeen _ s).mp hs
    rw [h2 s, if_pos hm, recordsOfSample_clean files hclean]
  · intro s hs
    have hm : ¬ s ∈ (textRecords files).map (·.1) := fun e => hs ((Ragc.Details.mem_firstSeen _ s).mpr e)
    rw [h2 s, if_neg hm]
  · intro f hf p hp hb
    obtain ⟨smp, a1, a2, c, a3, a4, a5⟩ := h5 f hf p hp hb
    exact ⟨smp, a1, a2, c, a3, a4, by rw [a5]; exact normaliseCode_eq_normalise (hclean f hf p hp)⟩

set_option maxRecDepth 100000 in
/-- Non-vacuity, evaluated on `exFiles` (toy ZSTD `zc l x = l :: x`): `create` answers; `listset`
is `A`, `B#1`; `getset A` prints `>c\nACGTACGTAC\n>d\nGNC\n` (the record `e` without sequence is
skipped, the gap and the line ends are dropped, lower case is raised), `getset B#1` prints
`>B#1#c\nACGGACGTAC\n`. -/
example : ∃ bs, createModel exCfg exFiles exDec zcToy = some bs ∧
    listModel bs zdToy = some [[65], [66, 35, 49]] ∧
    extractModel bs zdToy [65] = some [62, 99, 10, 65, 67, 71, 84, 65, 67, 71, 84, 65, 67, 10,
      62, 100, 10, 71, 78, 67, 10] ∧
    extractModel bs zdToy [66, 35, 49] = some [62, 66, 35, 49, 35, 99, 10,
      65, 67, 71, 71, 65, 67, 71, 84, 65, 67, 10] ∧
    extractModel bs zdToy [66] = none := by
  obtain ⟨bs, hc⟩ := create_exFiles
  obtain ⟨a1, a2, a3, _⟩ := (create_extract_text exCfg exFiles exDec zcToy zdToy (by decide +kernel)
    exFiles_clean exDec_ok zdToy_zcToy zcToy_ne_nil).2 bs hc
  rw [textRecords_exFiles] at a1 a2 a3
  refine ⟨bs, hc, by rw [a1]; decide +kernel, ?_, ?_, ?_⟩
  · rw [a2 [65] (by decide +kernel)]; decide +kernel
  · rw [a2 [66, 35, 49] (by decide +kernel)]; decide +kernel
  · exact a3 [66] (by decide +kernel)

/-- **Extraction does not depend on the presentation** (C19 through the archive). Two lists of
input files with the same paths presenting the same records — each record in ANY line width `≥ 1`,
LF or CRLF, any case pattern, each file with or without final newline (`ValidPres`: header without
`\n` and with a name, at least one base, all letters):

* `create` gets the same input from both: with the same configuration and decisions `createModel`
  returns the same bytes or fails on both;
* and whatever the configurations, decisions and ZSTDs of the two runs are (different `k`, other
  groupings, another schedule), `listset` and `getset` of every name give the same answer. -/
theorem create_extract_presentation (P Q : List (Bytes × Bool × List (Rec × RecStyle)))
    (hP : ∀ f ∈ P, ValidPres f.2.2) (hQ : ∀ f ∈ Q, ValidPres f.2.2)
    (hsame : P.map (fun f => (f.1, f.2.2.map (·.1))) = Q.map (fun f => (f.1, f.2.2.map (·.1)))) :
    (∀ cfg dec zc, createModel cfg (filesOf P) dec zc = createModel cfg (filesOf Q) dec zc) ∧
    ∀ (cfg₁ cfg₂ : Ragc.Writer.Cfg) (dec₁ dec₂ : Ragc.Writer.Decisions)
      (zc₁ zc₂ : Nat → List Nat → List Nat) (zd₁ zd₂ : List Nat → Option (List Nat)) (bs₁ bs₂ : List Nat),
      Ragc.Writer.DecisionsOK cfg₁ (inputOf (filesOf P)) dec₁ →
      Ragc.Writer.DecisionsOK cfg₂ (inputOf (filesOf Q)) dec₂ →
      (∀ l x, zd₁ (zc₁ l x) = some x) → (∀ l x, zc₁ l x = [] → x = []) →
      (∀ l x, zd₂ (zc₂ l x) = some x) → (∀ l x, zc₂ l x = [] → x = []) →
      createModel cfg₁ (filesOf P) dec₁ zc₁ = some bs₁ →
      createModel cfg₂ (filesOf Q) dec₂ zc₂ = some bs₂ →
      listModel bs₁ zd₁ = listModel bs₂ zd₂ ∧ ∀ s, extractModel bs₁ zd₁ s = extractModel bs₂ zd₂ s := by
  have hcs := createSamples_filesOf P Q hP hQ hsame
  constructor
  · intro cfg dec zc
    simp only [createModel, createOutcome, hcs]
  · intro cfg₁ cfg₂ dec₁ dec₂ zc₁ zc₂ zd₁ zd₂ bs₁ bs₂ hd1 hd2 hz1 hn1 hz2 hn2 hc1 hc2
    have e1 := (createSamples_ok_iff (filesOf P) _).mpr ⟨((create_answers_iff _ _ _ _ _).mp hc1).1, rfl⟩
    have e2 := (createSamples_ok_iff (filesOf Q) _).mpr ⟨((create_answers_iff _ _ _ _ _).mp hc2).1, rfl⟩
    rw [hcs, e2] at e1
    exact extract_congr (Except.ok.inj e1).symm cfg₁ cfg₂ dec₁ dec₂ zc₁ zc₂ zd₁ zd₂ bs₁ bs₂
      hd1 hd2 hz1 hn1 hz2 hn2 hc1 hc2

/-- the records of `exFiles` with a base, as `A.fa` / `x.fa` present them … -/
def exP : List (Bytes × Bool × List (Rec × RecStyle)) :=
  [([65, 46, 102, 97], true,
    [(⟨[99], [65, 67, 71, 84, 65, 67, 71, 84, 65, 67]⟩, ⟨6, false, [true, true, true, true]⟩),
     (⟨[100], [71, 78, 67]⟩, ⟨2, true, [false, false, true]⟩)]),
   ([120, 46, 102, 97], false, [(⟨[66, 35, 49, 35, 99], [65, 67, 71, 71, 65, 67, 71, 84, 65, 67]⟩, ⟨80, false, []⟩)])]

/-- … and the same records in one column, CRLF, lower case, no final newline / 3 columns -/
def exQ : List (Bytes × Bool × List (Rec × RecStyle)) :=
  [([65, 46, 102, 97], false,
    [(⟨[99], [65, 67, 71, 84, 65, 67, 71, 84, 65, 67]⟩, ⟨1, true, List.replicate 10 true⟩),
     (⟨[100], [71, 78, 67]⟩, ⟨80, false, []⟩)]),
   ([120, 46, 102, 97], true, [(⟨[66, 35, 49, 35, 99], [65, 67, 71, 71, 65, 67, 71, 84, 65, 67]⟩, ⟨3, true, [true]⟩)])]

set_option maxRecDepth 100000 in
example : (∀ f ∈ exP, ValidPres f.2.2) ∧ (∀ f ∈ exQ, ValidPres f.2.2) ∧
    exP.map (fun f => (f.1, f.2.2.map (·.1))) = exQ.map (fun f => (f.1, f.2.2.map (·.1))) ∧
    filesOf exP ≠ filesOf exQ ∧ inputOf (filesOf exP) = exInp ∧ admissible (filesOf exP) := by
  refine ⟨by decide +kernel, by decide +kernel, by decide +kernel, by decide +kernel,
    by decide +kernel, by decide +kernel⟩

/-- **`getset` on the created archive** (C17 on top): run the CLI model's `getset` on the decoded
archive (`cliArchive`) with ANY non-empty list of names of samples of the input (repeats allowed,
any order): it exits 0 and prints — on stdout after what was there, or as the complete content of
the `-o` file — the concatenation, in request order, of each sample's records in the documented
normalisation; no temp file is left. Hypotheses as in `create_extract_text`. -/
theorem getset_of_create (cfg : Ragc.Writer.Cfg) (files : List InFile)
    (dec : Ragc.Writer.Decisions) (zc : Nat → List Nat → List Nat) (zd : List Nat → Option (List Nat))
    (bs : List Nat) (hclean : SeqClean files)
    (hdec : Ragc.Writer.DecisionsOK cfg (inputOf files) dec)
    (hz : ∀ l x, zd (zc l x) = some x) (hne : ∀ l x, zc l x = [] → x = [])
    (hc : createModel cfg files dec zc = some bs)
    (ns : List Bytes) (hns : ns ≠ []) (hk : ∀ n ∈ ns, n ∈ (textRecords files).map (·.1))
    (oc : Bool) (fs : Ragc.Cli.Fs) :
    ∃ d, Ragc.Agc3.decodeArchive bs zd = .ok d ∧
      Ragc.Cli.getset ⟨some (cliArchive d), oc, true⟩ ⟨ns, none⟩ .stdout fs =
        (.ok, { fs with
          stdout := fs.stdout ++
            (ns.map (fun n => fastaText (recordsOfSample normalise (textRecords files) n))).flatten,
          temp := none }) ∧
      Ragc.Cli.getset ⟨some (cliArchive d), true, true⟩ ⟨ns, none⟩ .file fs =
        (.ok, { fs with
          out := some (ns.map (fun n => fastaText (recordsOfSample normalise (textRecords files) n))).flatten,
          temp := none }) := by
  obtain ⟨_, h2, d, h3, _, _⟩ := create_extract_text_general cfg files dec zc zd bs hdec hz hne hc
  have hx : ∀ n ∈ ns, extractModel bs zd n =
      some (fastaText (recordsOfSample normalise (textRecords files) n)) := by
    intro n hn
    rw [h2 n, if_pos (hk n hn), recordsOfSample_clean files hclean]
  have hknown : ∀ n ∈ ns, (cliArchive d).known n = true := by
    intro n hn
    rw [(cli_fasta_known bs zd d h3 n).2, hx n hn]; rfl
  have hf : ns.map (cliArchive d).fasta =
      ns.map (fun n => fastaText (recordsOfSample normalise (textRecords files) n)) := by
    apply List.map_congr_left
    intro n hn
    rw [(cli_fasta_known bs zd d h3 n).1, hx n hn]; rfl
  obtain ⟨g1, g2⟩ := Ragc.Props.C17.getset_concat (cliArchive d) oc ns fs hns hknown
  rw [hf] at g1 g2
  exact ⟨d, h3, g1, g2⟩

set_option maxRecDepth 100000 in
/-- Non-vacuity: `getset B#1 A B#1` on the archive of `exFiles`. -/
example : ∃ bs d, createModel exCfg exFiles exDec zcToy = some bs ∧
    Ragc.Agc3.decodeArchive bs zdToy = .ok d ∧
    (Ragc.Cli.getset ⟨some (cliArchive d), false, true⟩ ⟨[[66, 35, 49], [65], [66, 35, 49]], none⟩ .stdout
        ⟨none, none, []⟩).2.stdout =
      [62, 66, 35, 49, 35, 99, 10, 65, 67, 71, 71, 65, 67, 71, 84, 65, 67, 10] ++
      [62, 99, 10, 65, 67, 71, 84, 65, 67, 71, 84, 65, 67, 10, 62, 100, 10, 71, 78, 67, 10] ++
      [62, 66, 35, 49, 35, 99, 10, 65, 67, 71, 71, 65, 67, 71, 84, 65, 67, 10] := by
  obtain ⟨bs, hc⟩ := create_exFiles
  obtain ⟨d, hd, g1, _⟩ := getset_of_create exCfg exFiles exDec zcToy zdToy bs exFiles_clean exDec_ok
    zdToy_zcToy zcToy_ne_nil hc [[66, 35, 49], [65], [66, 35, 49]]
    (by decide) (by rw [textRecords_exFiles]; decide +kernel) false ⟨none, none, []⟩
  refine ⟨bs, d, hc, hd, ?_⟩
  rw [g1, textRecords_exFiles]
  decide +kernel

/-- **One PanSN file versus one file per sample, through the archive** (C19 `pansn_vs_files` composed
with C01). When every header carries its sample (≥ 3 `#`-fields): the per-sample files — each in
its own style, under any file names — and a single file presenting the same records in the same
order in any style lead, whenever both `create` runs answer (the single-file run additionally
needs the samples to be contiguous), to archives with the same `listset` and the same `getset`
output for every name — whatever the two configurations, decisions and ZSTDs are. -/
theorem create_extract_pansn_vs_files (files : List (Bytes × Bool × List (Rec × RecStyle)))
    (single : Bytes) (fin : Bool) (all : List (Rec × RecStyle))
    (hfiles : ∀ f ∈ files, ValidPres f.2.2) (hall : ValidPres all)
    (hsame : all.map (·.1) = files.flatMap (fun f => f.2.2.map (·.1)))
    (hpansn : ∀ f ∈ files, ∀ p ∈ f.2.2, IsPansn p.1)
    (cfg₁ cfg₂ : Ragc.Writer.Cfg) (dec₁ dec₂ : Ragc.Writer.Decisions)
    (zc₁ zc₂ : Nat → List Nat → List Nat) (zd₁ zd₂ : List Nat → Option (List Nat)) (bs₁ bs₂ : List Nat)
    (hd1 : Ragc.Writer.DecisionsOK cfg₁ (inputOf (filesOf files)) dec₁)
    (hd2 : Ragc.Writer.DecisionsOK cfg₂ (inputOf (filesOf [(single, fin, all)])) dec₂)
    (hz1 : ∀ l x, zd₁ (zc₁ l x) = some x) (hn1 : ∀ l x, zc₁ l x = [] → x = [])
    (hz2 : ∀ l x, zd₂ (zc₂ l x) = some x) (hn2 : ∀ l x, zc₂ l x = [] → x = [])
    (hc1 : createModel cfg₁ (filesOf files) dec₁ zc₁ = some bs₁)
    (hc2 : createModel cfg₂ (filesOf [(single, fin, all)]) dec₂ zc₂ = some bs₂) :
    listModel bs₁ zd₁ = listModel bs₂ zd₂ ∧ ∀ s, extractModel bs₁ zd₁ s = extractModel bs₂ zd₂ s := by
  have ha1 := ((create_answers_iff _ _ _ _ _).mp hc1).1
  have ha2 := ((create_answers_iff _ _ _ _ _).mp hc2).1
  have hinp : inputOf (filesOf files) = inputOf (filesOf [(single, fin, all)]) := by
    rw [inputOf_filesOf files hfiles ha1.2.1,
      inputOf_filesOf [(single, fin, all)] (by simpa using hall) ha2.2.1]
    have h19 := (Ragc.Props.C19.pansn_vs_files (files.map fun f => (fileSample f.1, f.2))
      (fileSample single) fin all (List.forall_mem_map.mpr hfiles) hall
      (by rw [List.flatMap_map]; exact hsame) (List.forall_mem_map.mpr hpansn)).2
    rw [fileStream_render _ fin all hall, List.flatMap_map] at h19
    rw [List.flatMap_cons, List.flatMap_nil, List.append_nil, Option.some.inj h19]
  exact extract_congr hinp cfg₁ cfg₂ dec₁ dec₂ zc₁ zc₂ zd₁ zd₂ bs₁ bs₂ hd1 hd2 hz1 hn1 hz2 hn2 hc1 hc2

set_option maxRecDepth 100000 in
example : (∀ f ∈ exPansnFiles, ValidPres f.2.2) ∧ ValidPres exPansnAll ∧
    exPansnAll.map (·.1) = exPansnFiles.flatMap (fun f => f.2.2.map (·.1)) ∧
    (∀ f ∈ exPansnFiles, ∀ p ∈ f.2.2, IsPansn p.1) ∧
    admissible (filesOf exPansnFiles) ∧ admissible (filesOf [([97, 108, 108, 46, 102, 97], true, exPansnAll)]) ∧
    Ragc.Writer.DecisionsOK exCfg (inputOf (filesOf exPansnFiles)) exDec ∧
    (Ragc.Writer.writeArchive exCfg (inputOf (filesOf exPansnFiles)) exDec zcToy).isSome = true := by
  refine ⟨by decide +kernel, by decide +kernel, by decide +kernel, by decide +kernel,
    by decide +kernel, by decide +kernel, by decide +kernel, demo_archives.2⟩

/-- **The catalogue is the one `register_sample_contig` builds** (C03 `register_order`): for inputs
that `createSamples` admits, registering the pushed `(sample, contig name)` pairs with the model of
`CollectionV3::register_sample_contig` (`Details.registerAll`) succeeds and gives the sample list
and the per-sample contig lists of `inputOf files`, the input `createModel` hands to the writer. -/
theorem create_catalogue_is_registration (files : List InFile) (h : admissible files) :
    ∃ ss, Ragc.Details.registerAll [] ((textRecords files).map (fun r => (r.1, r.2.1))) = some ss ∧
      Ragc.Details.samplesList ss = (inputOf files).map (·.name) ∧
      ∀ s ∈ inputOf files, (Ragc.Details.contigList ss s.name).getD [] = s.contigs.map (·.name) := by
  have := registration_agrees ((textRecords files).map code)
    (List.forall_mem_map.mpr h.2.2.2.1) (by rw [map_code_key]; exact h.2.2.2.2)
  rwa [map_code_key] at this

set_option maxRecDepth 100000 in
example : admissible exFiles ∧
    (inputOf exFiles).map (fun s => (s.name, s.contigs.map (·.name)))
      = [([65], [[99], [100]]), ([66, 35, 49], [[66, 35, 49, 35, 99]])] := by
  refine ⟨by decide +kernel, by decide +kernel⟩

end EndToEnd

/-!
## What the end-to-end section does NOT prove (and what covers it)

`create_extract_text` is a theorem about the COMPOSED MODELS; nothing is left open, no glue is
missing inside the models. What remains between it and the binary:

1. **Model ↔ code.** `createModel` is `Fasta.parseFile`/`fileStream` (correspondence: C16/C19
   harness) followed by `Writer.writeArchive` with the compressor's choices as DATA. That the real
   compressor is an instance — its decisions satisfy `DecisionsOK` and `writeArchive` with those
   decisions is the real file byte for byte — is checked per generated archive by the C02 harness,
   not proved. `extractModel` uses the INDEPENDENT decoder `Agc3.decodeArchive`; that ragc's own
   reader returns the same bases is the C02/C01 harness comparison (and C08 for the reader's state).
2. **Duplicate records** (`Failure.duplicateContig`): two records with a base under the same
   (sample, name). Found while composing this theorem (the composition had no place for them),
   replayed on the real code and confirmed as a genuine defect: `push` ignored the `Ok(false)` of
   `register_sample_contig`, the second contig was compressed as well and its segments were placed
   over those of the first under the one catalogue entry — `ragc create` exited 0 and
   `>a` came back as a 4685-base chimera of a 3000- and a 1700-base record. Repaired in /repo
   (3f11240: the second record is refused, create fails); the model now classes it as an error exit.
3. **Empty sample name** (`Outside.emptySampleName`: a file called `.fa`, `.fa.gz`, …):
   `register_sample_contig` substitutes the first word of the contig name; not composed.
4. **Names** are bytes 1..127 (inside `DecisionsOK`, from C03); invalid UTF-8 / non-ASCII white
   space around headers, gzip framing and paths without a normal last component are outside
   `Model/Fasta.lean` already.
5. **`writeArchive = none`** (`Outside.writer`): `min_match_len < 4`, sizes outside `u32`/`u64`,
   decisions that do not name the pieces.
6. **`getset --prefix`** on the created archive is not restated here; `Props.C17.getset_prefix`
   applies to `cliArchive d` in the same way `getset_concat` does in `getset_of_create` (sample
   names of `inputOf files` are pairwise different: `nodup_firstSeen`).
-/

end Ragc.Props.C16
