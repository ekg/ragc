import RagcModel.Lemmas.QueueRefine
/-!
C06 — bounded priority queue: exactly-once, priority order, capacity bound, close.

All theorems are about `Model/Queue.lean` (the transition system of
ragc-core/src/memory_bounded_queue.rs at the granularity of the under-lock events of hook H2) and
quantify over **every** event sequence that the model accepts from the initial state with `n`
threads: `run cap (init n) evs = some s`. That is every interleaving of any number of threads
running arbitrary programs over push / try_push / pull / try_pull / close, with every choice of
`notify_one` and with spurious wake-ups. `s.hist` is the linearisation history (newest first).
Helper lemmas and the invariants are in `Lemmas/Queue.lean`; the completed-call queue `AbsQ`, the
projection `trace` and the measure `mu` of the last section are in `Lemmas/QueueRefine.lean`.
-/
namespace Ragc.Props.C06
open Ragc.Queue Ragc.Queue.TStatus

/-! ## exactly-once -/

/-- Conservation: the multiset of items accepted by `push`/`try_push` is the multiset still queued
plus the multiset returned by `pull`/`try_pull`. -/
theorem conservation {cap n : Nat} {evs : List Event} {s : State}
    (h : run cap (init n) evs = some s) :
    (accepted s.hist).Perm (s.items ++ returned s.hist) :=
  let ia := InvA_run h
  (accepted_perm s.hist ia.hist).trans (ia.perm.append_right _)

example : (accepted Demo.final.hist).Perm (Demo.final.items ++ returned Demo.final.hist) :=
  conservation Demo.run_evs
example : accepted Demo.final.hist = [Demo.c, Demo.b, Demo.a] := by decide

/-- Nothing else is ever returned: a returned item was accepted before … -/
theorem nothing_foreign {cap n : Nat} {evs : List Event} {s : State}
    (h : run cap (init n) evs = some s) : ∀ x ∈ returned s.hist, x ∈ accepted s.hist :=
  fun _ hx => (conservation h).mem_iff.mpr (List.mem_append_right _ hx)

/-- … and an accepted item is one that some thread offered with `push` or `try_push`. -/
theorem accepted_offered {cap n : Nat} {evs : List Event} {s : State}
    (h : run cap (init n) evs = some s) : ∀ x ∈ accepted s.hist, x ∈ offered evs :=
  (InvR_run (R := (· ∈ offered evs)) (offersOnly_offered evs) h).acc

example : ∀ x ∈ returned Demo.final.hist, x ∈ offered Demo.evs :=
  fun x hx => accepted_offered Demo.run_evs x (nothing_foreign Demo.run_evs x hx)

/-- Exactly once: if the accepted items have distinct ids then no id is returned twice and no
returned id is still queued. -/
theorem exactly_once {cap n : Nat} {evs : List Event} {s : State}
    (h : run cap (init n) evs = some s) (hd : ((accepted s.hist).map Item.id).Nodup) :
    ((returned s.hist).map Item.id).Nodup ∧
      ∀ x ∈ s.items, ∀ y ∈ returned s.hist, x.id ≠ y.id := by
  have hp := ((conservation h).map Item.id).nodup_iff.mp hd
  rw [List.map_append, List.nodup_append] at hp
  refine ⟨hp.2.1, fun x hx y hy => ?_⟩
  exact hp.2.2 x.id (List.mem_map_of_mem hx) y.id (List.mem_map_of_mem hy)

example : ((returned Demo.final.hist).map Item.id).Nodup :=
  (exactly_once Demo.run_evs (by decide)).1

/-! ## priority order -/

/-- The queue contents can be recomputed from the linearisation history alone. -/
theorem queued_is_history {cap n : Nat} {evs : List Event} {s : State}
    (h : run cap (init n) evs = some s) : (queuedOf s.hist).Perm s.items :=
  (InvA_run h).perm

/-- A pull never returns an item while a strictly higher-priority item that was already queued
stays behind: at every take event of the history (`h1` = what happened before it) the returned
item was queued and no queued item had a larger priority key. -/
theorem pull_max {cap n : Nat} {evs : List Event} {s : State}
    (h : run cap (init n) evs = some s) {h2 h1 : List HEv} {t : Nat} {x : Item}
    (hh : s.hist = h2 ++ HEv.take t x :: h1) :
    x ∈ queuedOf h1 ∧ ∀ y ∈ queuedOf h1, y.prio ≤ x.prio :=
  HistOK_at h hh

example : Demo.b ∈ queuedOf [.accept 0 Demo.b, .accept 0 Demo.a] ∧
    ∀ y ∈ queuedOf [.accept 0 Demo.b, .accept 0 Demo.a], y.prio ≤ Demo.b.prio :=
  pull_max Demo.run_evs (h2 := [.refuse 0 Demo.a, .eos 1, .close 2, .take 1 Demo.a, .take 1 Demo.c,
    .accept 0 Demo.c]) (t := 1) rfl

/-! ## capacity -/

/-- `current_size` is the sum of the sizes of the queued items (the `-=` of lines 216/242 never
underflows). -/
theorem size_accounting {cap n : Nat} {evs : List Event} {s : State}
    (h : run cap (init n) evs = some s) : s.cur = sizeSum s.items :=
  (InvA_run h).cur_eq

/-- The admission rule (lines 107–110, 119, 154): an accept event happens only on an open queue, and
only if the item fits on top of what is queued **or the queue is empty**. -/
theorem accept_rule {cap n : Nat} {evs : List Event} {s : State}
    (h : run cap (init n) evs = some s) {h2 h1 : List HEv} {t : Nat} {x : Item}
    (hh : s.hist = h2 ++ HEv.accept t x :: h1) :
    (¬ ∃ u, HEv.close u ∈ h1) ∧ (sizeSum (queuedOf h1) + x.size ≤ cap ∨ queuedOf h1 = []) :=
  let ⟨hopen, hfit⟩ := HistOK_at h hh
  ⟨fun hc => Bool.false_ne_true (hopen.symm.trans (closedIn_iff.mpr hc)), hfit⟩

/-- The exact bound without any hypothesis on the sizes: in every reachable state the bytes queued
are within the capacity, **or exactly one item is queued and that item alone exceeds the
capacity** (it was admitted into the empty queue; nothing is admitted on top of it). -/
theorem cap_bound_general {cap n : Nat} {evs : List Event} {s : State}
    (h : run cap (init n) evs = some s) :
    sizeSum s.items ≤ cap ∨ ∃ x, s.items = [x] ∧ cap < x.size := by
  have ia := InvA_run h
  rcases ia.bound with hb | ⟨x, hx⟩
  · exact .inl (ia.cur_eq ▸ hb)
  · rcases Nat.lt_or_ge cap x.size with hc | hc
    · exact .inr ⟨x, hx, hc⟩
    · exact .inl (hx ▸ hc)

/-- Same bound as a number: if every offered item has at most `M` bytes, the bytes queued never
exceed `max cap M` (the capacity or the largest single item). -/
theorem cap_bound_max {cap n M : Nat} {evs : List Event} {s : State}
    (h : run cap (init n) evs = some s)
    (hM : ∀ e ∈ evs, OffersOnly (fun it => it.size ≤ M) e) : sizeSum s.items ≤ max cap M := by
  rcases cap_bound_general h with hb | ⟨x, hx, _⟩
  · exact Nat.le_trans hb (Nat.le_max_left _ _)
  · -- the single queued item was accepted, hence offered
    have hacc : x ∈ accepted s.hist :=
      (conservation h).mem_iff.mpr (List.mem_append_left _ (hx ▸ List.mem_singleton_self x))
    exact hx ▸ Nat.le_trans ((InvR_run hM h).acc x hacc) (Nat.le_max_right _ _)

/-- The bytes queued never exceed the capacity whenever each item individually fits (every item
offered by `push` / `try_push` has `size ≤ cap`). -/
theorem cap_bound {cap n : Nat} {evs : List Event} {s : State}
    (h : run cap (init n) evs = some s)
    (hf : ∀ e ∈ evs, OffersOnly (fun it => it.size ≤ cap) e) : sizeSum s.items ≤ cap :=
  Nat.max_self cap ▸ cap_bound_max h hf

example : Demo.mid.cur = sizeSum Demo.mid.items ∧ sizeSum Demo.mid.items ≤ 10 :=
  ⟨size_accounting Demo.run_mid, cap_bound Demo.run_mid (by decide)⟩
example : sizeSum Demo.mid.items = 10 := by decide

/-- the second alternative of `cap_bound_general` does occur: capacity 4, one queued item of 6 bytes -/
example : ∃ x, Demo.over3.items = [x] ∧ 4 < x.size :=
  (cap_bound_general Demo.run_over3).resolve_left (by decide)
example : sizeSum Demo.over3.items ≤ max 4 6 := cap_bound_max Demo.run_over3 (by decide)

/-- The model computes `current_size + size_bytes` in ℕ, the code in `usize`. If every item offered
by `push`/`try_push` has at most `M` bytes and `max cap M + M < 2^64`, no sum the code evaluates
(lines 107, 130, 154, 165) reaches 2^64, so the two coincide: for every item a thread carries
inside `push` and for every item of at most `M` bytes a `try_push` could offer next. With
`M = cap` (every item fits) the condition is `2 * cap < 2^64`. -/
theorem no_usize_overflow {cap n M : Nat} {evs : List Event} {s : State}
    (h : run cap (init n) evs = some s) (hM : ∀ e ∈ evs, OffersOnly (fun it => it.size ≤ M) e)
    (hc : max cap M + M < 2 ^ 64) :
    (∀ st ∈ s.thr, ∀ it, st.item? = some it → s.cur + it.size < 2 ^ 64) ∧
    (∀ it : Item, it.size ≤ M → s.cur + it.size < 2 ^ 64) := by
  have hcur : s.cur ≤ max cap M := size_accounting h ▸ cap_bound_max h hM
  exact ⟨fun st hst it hit =>
      Nat.lt_of_le_of_lt (Nat.add_le_add hcur ((InvR_run hM h).carried st hst it hit)) hc,
    fun it hit => Nat.lt_of_le_of_lt (Nat.add_le_add hcur hit) hc⟩

example : ∀ st ∈ Demo.mid.thr, ∀ it, st.item? = some it → Demo.mid.cur + it.size < 2 ^ 64 :=
  (no_usize_overflow (M := 10) Demo.run_mid (by decide) (by decide)).1

/-! ## close -/

/-- `closed` is set exactly when a close event is in the history (and is never reset). -/
theorem closed_iff {cap n : Nat} {evs : List Event} {s : State}
    (h : run cap (init n) evs = some s) : s.closed = true ↔ ∃ t, HEv.close t ∈ s.hist := by
  rw [(InvA_run h).closed_eq, closedIn_iff]

/-- After close, pushes are refused: no admit event follows a close event. -/
theorem closed_refuses {cap n : Nat} {evs : List Event} {s : State}
    (h : run cap (init n) evs = some s) {h2 h1 : List HEv} {t : Nat}
    (hh : s.hist = h2 ++ HEv.close t :: h1) : ∀ e ∈ h2, ∀ u x, e ≠ HEv.accept u x := by
  rintro _ he u x rfl
  obtain ⟨a, b, rfl⟩ := List.append_of_mem he
  rw [List.append_assoc] at hh
  exact (accept_rule h hh).1 ⟨t, List.mem_append_right _ List.mem_cons_self⟩

/-- … and a push is refused only after close. -/
theorem refuse_only_closed {cap n : Nat} {evs : List Event} {s : State}
    (h : run cap (init n) evs = some s) {h2 h1 : List HEv} {t : Nat} {x : Item}
    (hh : s.hist = h2 ++ HEv.refuse t x :: h1) : ∃ u, HEv.close u ∈ h1 :=
  closedIn_iff.mp (HistOK_at h hh)

example : ∀ e ∈ [HEv.refuse 0 Demo.a, .eos 1], ∀ u x, e ≠ HEv.accept u x :=
  closed_refuses Demo.run_evs (h2 := [.refuse 0 Demo.a, .eos 1]) (t := 2) rfl

/-- End-of-stream (`pull` returning `None`) is reported only when the queue is closed **and**
empty: the remaining items are handed out first. -/
theorem pull_eos_iff {cap n : Nat} {evs : List Event} {s : State}
    (h : run cap (init n) evs = some s) {h2 h1 : List HEv} {t : Nat}
    (hh : s.hist = h2 ++ HEv.eos t :: h1) : (∃ u, HEv.close u ∈ h1) ∧ queuedOf h1 = [] :=
  let ⟨hc, he⟩ := HistOK_at h hh
  ⟨closedIn_iff.mp hc, he⟩

/-- The decision a thread inside `pull` takes (lines 194 and 203), in every state: it reports
end-of-stream iff closed ∧ empty, it waits iff open ∧ empty, and it can take only from a non-empty
queue (and then some take is enabled, whatever `closed` says). -/
theorem pull_decision (cap : Nat) (s : State) (t : Nat) (ht : s.thr[t]? = some .pulling) :
    ((step cap s (.pullEos t)).isSome ↔ (s.closed = true ∧ s.items = [])) ∧
    ((step cap s (.pullWait t)).isSome ↔ (s.closed = false ∧ s.items = [])) ∧
    (∀ it w, (step cap s (.pullTake t it w)).isSome → s.items ≠ []) := by
  simp only [step_isSome]
  refine ⟨⟨fun ⟨_, hs⟩ => ?_, fun h => ⟨_, .pullEos ht h.2 h.1⟩⟩,
    ⟨fun ⟨_, hs⟩ => ?_, fun h => ⟨_, .pullWait ht h.2 h.1⟩⟩, fun it w ⟨_, hs⟩ he => ?_⟩
  · cases hs with | pullEos _ he hc => exact ⟨hc, he⟩
  · cases hs with | pullWait _ he hc => exact ⟨hc, he⟩
  · cases hs with | pullTake _ hm _ _ => exact List.not_mem_nil (he ▸ hm)

example : (∃ u, HEv.close u ∈ [HEv.close 2, .take 1 Demo.a]) ∧
    queuedOf [HEv.close 2, .take 1 Demo.a, .take 1 Demo.c, .accept 0 Demo.c, .take 1 Demo.b,
      .accept 0 Demo.b, .accept 0 Demo.a] = [] :=
  ⟨⟨2, by simp⟩, (pull_eos_iff Demo.run_evs (h2 := [.refuse 0 Demo.a]) (t := 1) rfl).2⟩

/-- After close no thread stays in a wait set (`notify_all`, and nobody can start waiting). -/
theorem closed_no_waiter {cap n : Nat} {evs : List Event} {s : State}
    (h : run cap (init n) evs = some s) (hc : s.closed = true) :
    ∀ (t : Nat) (st : TStatus), s.thr[t]? = some st → st.isWaitNF = false ∧ st.isWaitNE = false := by
  intro t st ht
  have hb := InvB_run h
  have hst := List.mem_of_getElem? ht
  exact ⟨Bool.eq_false_iff.mpr (List.countP_eq_zero.mp (hb.closedNF hc) st hst),
    Bool.eq_false_iff.mpr (List.countP_eq_zero.mp (hb.closedNE hc) st hst)⟩

/-- After close every unfinished call has an enabled event of its own that brings it strictly
closer to returning (rank: waiting 3 — excluded by `closed_no_waiter` —, notified 2, running 1,
returned 0). Hence at most two own steps complete it, whatever the other threads do. -/
theorem closed_progress {cap n : Nat} {evs : List Event} {s : State}
    (h : run cap (init n) evs = some s) (hc : s.closed = true)
    {t : Nat} {st : TStatus} (ht : s.thr[t]? = some st) (hne : st ≠ .idle) :
    ∃ e s' st', e.tid = t ∧ step cap s e = some s' ∧ s'.thr[t]? = some st' ∧
      st'.rank < st.rank :=
  closed_progress_aux (InvB_run h) hc ht hne

example : ∃ e s' st', e.tid = 1 ∧ step 10 Demo.afterClose e = some s' ∧ s'.thr[1]? = some st' ∧
    st'.rank < TStatus.notifNE.rank :=
  closed_progress Demo.run_afterClose rfl (t := 1) rfl (by decide)

/-! ## no lost wake-up -/

/-- `not_empty`: while some consumer sleeps un-notified, every queued item is covered by a
distinct consumer that is on its way (notified, or running inside `pull`): `notify_one` per admit
suffices. -/
theorem no_lost_wakeup_not_empty {cap n : Nat} {evs : List Event} {s : State}
    (h : run cap (init n) evs = some s) (hw : 0 < s.cnt isWaitNE) :
    s.items.length ≤ s.cnt isNotifNE + s.cnt isPulling :=
  (InvB_run h).ne hw

/-- In particular: if a consumer sleeps and no consumer is on its way, the queue is empty. -/
theorem consumer_asleep_queue_empty {cap n : Nat} {evs : List Event} {s : State}
    (h : run cap (init n) evs = some s) (hw : 0 < s.cnt isWaitNE)
    (h0 : s.cnt isNotifNE + s.cnt isPulling = 0) : s.items = [] :=
  List.eq_nil_of_length_eq_zero (Nat.le_zero.mp (h0 ▸ no_lost_wakeup_not_empty h hw))

example : Demo.asleep.items = [] :=
  consumer_asleep_queue_empty Demo.run_asleep (by decide) (by decide)

/-- `not_full`, one producer (the pipeline's case): if only thread `p` ever calls the blocking
`push`, then whenever it sleeps un-notified its item really does not fit, the queue is non-empty
(so a future take will notify it) and open. `try_push` by other threads is allowed. No hypothesis
on the sizes. -/
theorem no_lost_wakeup_not_full_single {cap n p : Nat} {evs : List Event} {s : State}
    (h : run cap (init n) evs = some s) (hp : ∀ e ∈ evs, OnlyPusher p e)
    {t : Nat} {it : Item} (ht : s.thr[t]? = some (.waitNF it)) :
    t = p ∧ s.cur + it.size > cap ∧ s.items ≠ [] ∧ s.closed = false :=
  sleeping_producer (InvD_run hp h) ht

example : (0 : Nat) = 0 ∧ Demo.mid.cur + Demo.c.size > 10 ∧ Demo.mid.items ≠ [] ∧
    Demo.mid.closed = false :=
  no_lost_wakeup_not_full_single (p := 0) Demo.run_mid (by decide) (t := 0) rfl

/-- `not_full`, any number of producers, any sizes: while some producer sleeps un-notified, the
queue is non-empty or a producer is on its way (notified, or running inside `push`). So a future
take — which notifies — is always possible, or someone is coming. (Before the repair of D5 this
needed "every pushed item fits on its own".) -/
theorem not_full_covered {cap n : Nat} {evs : List Event} {s : State}
    (h : run cap (init n) evs = some s)
    (hw : 0 < s.cnt isWaitNF) : s.items ≠ [] ∨ 0 < s.cnt isNotifNF + s.cnt isPushing := by
  have := InvC_run h hw
  by_cases he : s.items = []
  · rw [he, List.length_nil, Nat.zero_add] at this; exact .inr this
  · exact .inl he

example : Demo.mid.items ≠ [] ∨ 0 < Demo.mid.cnt isNotifNF + Demo.mid.cnt isPushing :=
  not_full_covered Demo.run_mid (by decide)

/-- Consequently, for all sizes: the queue itself never deadlocks — a state in which a producer and
a consumer both sleep un-notified while nobody is running or on its way is unreachable. -/
theorem no_mutual_wait {cap n : Nat} {evs : List Event} {s : State}
    (h : run cap (init n) evs = some s) :
    ¬ (0 < s.cnt isWaitNF ∧ 0 < s.cnt isWaitNE ∧
        s.cnt isNotifNF + s.cnt isPushing + s.cnt isNotifNE + s.cnt isPulling = 0) := by
  rintro ⟨h1, h2, h0⟩
  have he := consumer_asleep_queue_empty h h2 (by omega)
  rcases not_full_covered h h1 with hne | hpos
  · exact hne he
  · omega

/-- What does **not** hold with two or more producers: "a sleeping producer does not fit".
Capacity 10, queue X(5) Y(5); producer 1 sleeps with A(10), producer 2 with B(5); thread 0 takes
X and the single `notify_one` goes to producer 1, which still does not fit and sleeps again. In
the state reached producer 2 **fits** (5+5 ≤ 10), sleeps un-notified, nobody is on the way, and
the only enabled events are new calls of thread 0 or spurious wake-ups: producer 2 stays blocked
until some thread takes again (a delay if consumers keep pulling — `not_full_covered` —, a
deadlock if thread 0 waits for B). `not_full_covered` and `no_mutual_wait` apply to this run;
`no_lost_wakeup_not_full_single` does not (two pushers). Unchanged by the repair of D5 (every
item fits, and the queue is never empty while a producer sleeps). -/
theorem two_producers_delayed_wakeup :
    ∃ evs s, run 10 (init 3) evs = some s ∧ (∀ e ∈ evs, FitsEv 10 e) ∧
      (∃ it, s.thr[2]? = some (.waitNF it) ∧ s.cur + it.size ≤ 10) ∧ s.closed = false ∧
      s.cnt isNotifNF + s.cnt isPushing = 0 ∧
      (∀ e s', step 10 s e = some s' → e.tid = 0 ∨ e = .pushSpur 1 ∨ e = .pushSpur 2) :=
  ⟨Demo.evs2, Demo.stuck2, Demo.run_evs2, by decide, ⟨Demo.B, rfl, by decide⟩, rfl, by decide,
    Demo.stuck2_enabled⟩

/-! ## items larger than the capacity (repair of D5, commit c0ac607) -/

/-- What a thread inside `push` does next, in every state (lines 107–110 and 119): it waits iff
too full ∧ non-empty ∧ open, it is refused iff closed, and it is admitted (for a suitable choice
of the notified waiter) iff open ∧ (fits ∨ the queue is empty). Exactly one of the three. -/
theorem push_decision (cap : Nat) (s : State) (t : Nat) (it : Item)
    (ht : s.thr[t]? = some (.pushing it)) :
    ((step cap s (.pushWait t)).isSome ↔
      (s.cur + it.size > cap ∧ s.items ≠ [] ∧ s.closed = false)) ∧
    ((step cap s (.pushRefuse t)).isSome ↔ s.closed = true) ∧
    ((∃ w, (step cap s (.pushAdmit t w)).isSome) ↔
      ((s.cur + it.size ≤ cap ∨ s.items = []) ∧ s.closed = false)) := by
  -- the item a step of thread `t` speaks of is the one it carries
  have same : ∀ {it'}, s.thr[t]? = some (.pushing it') → it' = it :=
    fun ht' => TStatus.pushing.inj (Option.some.inj (ht'.symm.trans ht))
  simp only [step_isSome]
  refine ⟨⟨fun ⟨_, hs⟩ => ?_, fun h => ⟨_, .pushWait ht h.1 h.2.1 h.2.2⟩⟩,
    ⟨fun ⟨_, hs⟩ => ?_, fun h => ⟨_, .pushRefuse ht h⟩⟩, ⟨fun ⟨w, _, hs⟩ => ?_, fun h => ?_⟩⟩
  · cases hs with | pushWait ht' h1 h2 h3 => cases same ht'; exact ⟨h1, h2, h3⟩
  · cases hs with | pushRefuse _ hc => exact hc
  · cases hs with | pushAdmit ht' hf hc _ => cases same ht'; exact ⟨hf, hc⟩
  · obtain ⟨w, s', hs'⟩ := notifyNE_enabled ((s.setT t .idle).enq t it)
    exact ⟨w, s', .pushAdmit ht h.1 h.2 (notifyNE_iff.mp hs')⟩

/-- An item larger than the capacity does not block `push` for ever any more: once the queue is
empty (and open) the push cannot wait, and it is admitted. Together with `not_full_covered` /
`no_lost_wakeup_not_full_single` (a sleeping producer always has a non-empty queue in front of it,
and the take that empties the queue notifies) an oversize push completes as soon as the consumers
have drained the queue.

Formerly (before commit c0ac607) the model had the proved witness `oversize_blocks`: capacity 4,
item of 6 bytes, `[pullEnter 1, pullWait 1, pushEnter 0 Big, pushWait 0]` reached
`{items := [], thr := [waitNF Big, waitNE]}` in which only spurious wake-ups were enabled — the
defect D5 (`push` blocked for ever and the consumers with it). That run is no longer accepted by
the model nor produced by the code: `pushWait` needs a non-empty queue. -/
theorem oversize_admitted_when_empty (cap : Nat) (s : State) (t : Nat) (it : Item)
    (ht : s.thr[t]? = some (.pushing it)) (he : s.items = []) (hc : s.closed = false) :
    step cap s (.pushWait t) = none ∧
      ∃ w s', step cap s (.pushAdmit t w) = some s' ∧ s'.items = [it] := by
  constructor
  · cases hs : step cap s (.pushWait t) with
    | none => rfl
    | some s' => cases step_sound hs with | pushWait _ _ hne _ => exact absurd he hne
  · obtain ⟨w, s', hs'⟩ := notifyNE_enabled ((s.setT t .idle).enq t it)
    have hn := notifyNE_iff.mp hs'
    refine ⟨w, s', step_complete (.pushAdmit ht (.inr he) hc hn), ?_⟩
    rw [hn.same]; exact congrArg (it :: ·) he

/-- capacity 4, empty queue, consumer asleep: the 6-byte item is admitted and taken (the run that
used to end in the stuck state) … -/
example : run 4 (init 2) Demo.evs3 = some Demo.final3 ∧ returned Demo.final3.hist = [Demo.Big] :=
  ⟨Demo.run_evs3, by decide⟩
/-- … and on a non-empty queue it sleeps, is notified by the take that empties the queue, and is
admitted. -/
example : run 4 (init 2) Demo.evs4 = some Demo.final4 ∧ Demo.final4.items = [Demo.Big] :=
  ⟨Demo.run_evs4, rfl⟩
example : ∃ w s', step 4 (State.mk [] 0 false [.pushing Demo.Big, .waitNE] []) (.pushAdmit 0 w) = some s' ∧
    s'.items = [Demo.Big] :=
  (oversize_admitted_when_empty 4 _ 0 Demo.Big rfl rfl rfl).2

/-! ## the completed-call queue (the queue of `Model/Pipeline.lean`) is refined by this model

`AbsQ` is the queue at the granularity of completed calls: `push x` enabled iff
`open ∧ (cur + size ≤ cap ∨ empty)`, `pull x` iff `x` is queued and maximal, `exit` (pull returning
`None`) iff `closed ∧ empty`, `close` always; `cur` is recomputed from the items. `trace` projects an
event sequence: `pushAdmit`/`tryPushAdmit` ↦ push, `pullTake`/`tryPullTake` ↦ pull, `pullEos` ↦
exit, `close` ↦ close, every other event (enter, wait, wake, spurious wake, refuse, would-block,
try-pull-empty) ↦ nothing. -/

/-- Refinement (safety). For every run of the model — any number of threads, any `notify_one`
choices, spurious wake-ups — the projected sequence of completed calls is a run of the
completed-call queue from the empty open queue to the abstraction `(items, closed)` of the state
reached; the byte counter is the recomputed one; and the projection is exactly the linearisation
history read oldest first. -/
theorem queue_refines_abstract {cap n : Nat} {evs : List Event} {s : State}
    (h : run cap (init n) evs = some s) :
    arun cap AbsQ.init (trace cap (init n) evs) = some s.abs ∧ s.cur = s.abs.cur ∧
      histOps s.hist = trace cap (init n) evs := by
  obtain ⟨h1, h2⟩ := refines_run (s0 := init n) rfl h
  exact ⟨h1, h2, hist_run h⟩

example : trace 10 (init 3) Demo.evs =
    [.push 0 Demo.a, .push 0 Demo.b, .pull 1 Demo.b, .push 0 Demo.c, .pull 1 Demo.c, .pull 1 Demo.a,
     .close 2, .exit 1] := by decide
example : arun 10 AbsQ.init (trace 10 (init 3) Demo.evs) = some ⟨[], true⟩ :=
  (queue_refines_abstract Demo.run_evs).1

/-- What "is a run of the completed-call queue" says, call by call: the `k`-th projected call was
enabled in the abstract state `a1` reached by the calls before it. A push happened on an open queue
into which the item fits or which is empty (the guard `Pipeline.pushGuard true`), a pull returned a
queued item of maximal key, an exit happened on a closed empty queue (`AOp.spec`: for `push _ x`
`a1.closed = false ∧ (sizeSum a1.items + x.size ≤ cap ∨ a1.items = []) ∧ a2 = ⟨x :: a1.items, a1.closed⟩`,
for `pull _ x` `x ∈ a1.items ∧ (∀ y ∈ a1.items, y.prio ≤ x.prio) ∧ a2 = ⟨a1.items.erase x, a1.closed⟩`,
for `exit _` `a1.closed = true ∧ a1.items = [] ∧ a2 = a1`, for `close _` `a2 = ⟨a1.items, true⟩`). -/
theorem projected_calls_enabled {cap n : Nat} {evs : List Event} {s : State}
    (h : run cap (init n) evs = some s) {pre post : List AOp} {o : AOp}
    (ht : trace cap (init n) evs = pre ++ o :: post) :
    ∃ a1 a2, arun cap AbsQ.init pre = some a1 ∧ arun cap a2 post = some s.abs ∧ o.spec cap a1 a2 := by
  have hr := (queue_refines_abstract h).1
  rw [ht] at hr
  obtain ⟨a1, a2, h1, h2, h3⟩ := arun_split hr
  exact ⟨a1, a2, h1, h3, astep_spec h2⟩

example : ∃ a1 a2, arun 10 AbsQ.init [.push 0 Demo.a, .push 0 Demo.b] = some a1 ∧
    arun 10 a2 [.push 0 Demo.c, .pull 1 Demo.c, .pull 1 Demo.a, .close 2, .exit 1] = some Demo.final.abs ∧
    (Demo.b ∈ a1.items ∧ (∀ y ∈ a1.items, y.prio ≤ Demo.b.prio) ∧ a2 = ⟨a1.items.erase Demo.b, a1.closed⟩) :=
  projected_calls_enabled Demo.run_evs (o := .pull 1 Demo.b) (by decide)

/-! ## no stuck call: the condvar protocol never withholds an enabled completed call

The pipeline's usage: only thread `p` calls the blocking `push` (`OnlyPusher p`); any number of
threads call `pull`. (`try_push`/`try_pull`/`close` by any thread are allowed as well — the theorems
do not need their absence.) An event is *internal* if it is neither a spurious wake-up nor the start
of a new call: `pushWait`, `pushWake`, `pushRefuse`, `pushAdmit`, `pullWait`, `pullWake`, `pullEos`,
`pullTake` — the steps the code itself takes inside a call that is in progress. -/

/-- A call in progress is never blocked without a cause. In every reachable state, for every thread
`t` inside a call:

(a) inside `pull`: `t` has an enabled internal step of its own (it is running or has been
notified), or it sleeps in `not_empty.wait`, the queue is open, and every queued item is covered by a
distinct consumer that is awake inside `pull` (`#items ≤ #notified + #running`); hence either the
queue is empty — both completed outcomes of `pull` are disabled — or another consumer `u`, notified
or running, has an enabled internal step (a wake-up is in flight);

(b) inside `push`: `t` has an enabled internal step of its own, or it is the producer `p` asleep in
`not_full.wait` and the completed `push` of its item is disabled (does not fit, queue non-empty,
open). -/
theorem blocked_call_has_cause {cap n p : Nat} {evs : List Event} {s : State}
    (h : run cap (init n) evs = some s) (hp : ∀ e ∈ evs, OnlyPusher p e)
    {t : Nat} {st : TStatus} (ht : s.thr[t]? = some st) :
    (st.inPull = true →
      (∃ e s', e.tid = t ∧ e.isInternal = true ∧ step cap s e = some s') ∨
      (st = .waitNE ∧ s.closed = false ∧ s.items.length ≤ s.cnt isNotifNE + s.cnt isPulling ∧
        (s.items = [] ∨ ∃ u stu e s', u ≠ t ∧ s.thr[u]? = some stu ∧ (stu = .notifNE ∨ stu = .pulling) ∧
          e.tid = u ∧ e.isInternal = true ∧ step cap s e = some s'))) ∧
    (st.inPush = true →
      (∃ e s', e.tid = t ∧ e.isInternal = true ∧ step cap s e = some s') ∨
      (∃ it, st = .waitNF it ∧ t = p ∧ ¬ s.abs.canPush cap it ∧
        s.cur + it.size > cap ∧ s.items ≠ [] ∧ s.closed = false)) := by
  constructor
  · intro hin
    cases st <;> cases hin
    · exact .inl (own_step_pulling cap ht)
    · exact .inr ⟨rfl, sleeping_consumer cap (InvB_run h) ht⟩
    · exact .inl (own_step_notifNE cap ht)
  · intro hin
    cases st <;> cases hin
    · exact .inl (own_step_pushing cap ht)
    · next it =>
      obtain ⟨h1, h2, h3, h4⟩ := sleeping_producer (InvD_run hp h) ht
      refine .inr ⟨it, rfl, h1, fun hcan => hcan.2.elim (fun hfit => ?_) h3, h2, h3, h4⟩
      exact Nat.not_le_of_gt h2 (size_accounting h ▸ hfit)
    · exact .inl (own_step_notifNF cap ht)

/-- the sleeping producer of `Demo.mid` (item `c`, 1 byte, on a full queue): alternative two of (b) -/
example : (∃ e s', e.tid = 0 ∧ e.isInternal = true ∧ step 10 Demo.mid e = some s') ∨
    (∃ it, TStatus.waitNF Demo.c = .waitNF it ∧ (0 : Nat) = 0 ∧ ¬ Demo.mid.abs.canPush 10 it ∧
      Demo.mid.cur + it.size > 10 ∧ Demo.mid.items ≠ [] ∧ Demo.mid.closed = false) :=
  (blocked_call_has_cause (p := 0) Demo.run_mid (by decide) (t := 0) rfl).2 rfl
example : ¬ Demo.mid.abs.canPush 10 Demo.c := by decide
/-- the sleeping consumer of `Demo.asleep` on the empty open queue: alternative two of (a) -/
example : (∃ e s', e.tid = 1 ∧ e.isInternal = true ∧ step 10 Demo.asleep e = some s') ∨
    (TStatus.waitNE = .waitNE ∧ Demo.asleep.closed = false ∧
      Demo.asleep.items.length ≤ Demo.asleep.cnt isNotifNE + Demo.asleep.cnt isPulling ∧
      (Demo.asleep.items = [] ∨ ∃ u stu e s', u ≠ 1 ∧ Demo.asleep.thr[u]? = some stu ∧
        (stu = .notifNE ∨ stu = .pulling) ∧ e.tid = u ∧ e.isInternal = true ∧
        step 10 Demo.asleep e = some s')) :=
  (blocked_call_has_cause (p := 0) Demo.run_asleep (by decide) (t := 1) rfl).1 rfl
example : Demo.asleep.items = [] ∧ ¬ Demo.asleep.abs.canExit := by decide

/-- Consequently: whenever the completed-call queue has an enabled operation for a thread that is
inside the corresponding call, the model has an enabled event that is not a spurious wake-up (and not
a new call). For `push` it is an event of the caller itself; for `pull` (an item is queued, or the
queue is closed and empty) it is an event of some thread `u` that is awake inside `pull` — the caller
or, if the caller sleeps, a consumer to which the wake-up went. -/
theorem enabled_abstract_step_implies_enabled_concrete_step {cap n p : Nat} {evs : List Event}
    {s : State} (h : run cap (init n) evs = some s) (hp : ∀ e ∈ evs, OnlyPusher p e)
    {t : Nat} {st : TStatus} (ht : s.thr[t]? = some st) :
    (∀ it, st.item? = some it → s.abs.canPush cap it →
      ∃ e s', e.tid = t ∧ e.isInternal = true ∧ step cap s e = some s') ∧
    (st.inPull = true → ((∃ x, s.abs.canPull x) ∨ s.abs.canExit) →
      ∃ u stu e s', s.thr[u]? = some stu ∧ (stu = .pulling ∨ stu = .notifNE) ∧
        e.tid = u ∧ e.isInternal = true ∧ step cap s e = some s') := by
  constructor
  · intro it hit hcan
    have hin : st.inPush = true := by cases st <;> first | rfl | cases hit
    rcases (blocked_call_has_cause h hp ht).2 hin with hown | ⟨it', rfl, _, hno, _⟩
    · exact hown
    · cases hit; exact absurd hcan hno
  · intro hin hen
    cases st <;> cases hin
    · obtain ⟨e, s', h1, h2, h3⟩ := own_step_pulling cap ht
      exact ⟨t, _, e, s', ht, .inl rfl, h1, h2, h3⟩
    · obtain ⟨hopen, _, he | ⟨u, stu, e, s', _, hu, hstu, h1, h2, h3⟩⟩ :=
        sleeping_consumer cap (InvB_run h) ht
      · -- the queue is open and empty: no completed `pull` is enabled
        rcases hen with ⟨x, hx, _⟩ | ⟨hc, _⟩
        · exact absurd (he ▸ hx : x ∈ []) List.not_mem_nil
        · exact absurd (hopen.symm.trans hc) Bool.false_ne_true
      · exact ⟨u, stu, e, s', hu, hstu.symm, h1, h2, h3⟩
    · obtain ⟨e, s', h1, h2, h3⟩ := own_step_notifNE cap ht
      exact ⟨t, _, e, s', ht, .inr rfl, h1, h2, h3⟩

/-- `Demo.mid`: `b` is queued and maximal, consumer 1 has been notified and can resume -/
example : ∃ u stu e s', Demo.mid.thr[u]? = some stu ∧ (stu = .pulling ∨ stu = .notifNE) ∧
    e.tid = u ∧ e.isInternal = true ∧ step 10 Demo.mid e = some s' :=
  (enabled_abstract_step_implies_enabled_concrete_step (p := 0) Demo.run_mid (by decide) (t := 1) rfl).2
    rfl (.inl ⟨Demo.b, by decide⟩)

/-- Internal steps terminate, and where they stop nothing is withheld. From a reachable state, every
sequence `fs` of internal events (no spurious wake-up, no new call) has at most `mu s ≤ 4·n` events
(`mu` weighs a thread outside the queue 0, asleep 2, evaluating its loop condition 3, notified 4);
and if no internal event is enabled after it, every thread is outside the queue (its call
completed), or a consumer asleep on an open empty queue, or the producer asleep with an item whose
completed `push` is disabled. -/
theorem internal_steps_terminate {cap n p : Nat} {evs : List Event} {s : State}
    (h : run cap (init n) evs = some s) (hp : ∀ e ∈ evs, OnlyPusher p e)
    {fs : List Event} {s' : State} (hf : run cap s fs = some s')
    (hi : ∀ e ∈ fs, e.isInternal = true) :
    fs.length + mu s' ≤ mu s ∧ mu s ≤ 4 * n ∧
    (Quiescent cap s' → ∀ t st, s'.thr[t]? = some st →
      st = .idle ∨ (st = .waitNE ∧ s'.items = [] ∧ s'.closed = false) ∨
      (∃ it, st = .waitNF it ∧ t = p ∧ s'.cur + it.size > cap ∧ s'.items ≠ [] ∧ s'.closed = false)) := by
  refine ⟨internal_run_bounded hf hi, ?_, fun hq t st ht => ?_⟩
  · have := mu_le s
    rwa [run_thr_length h, init, List.length_replicate] at this
  · have hrun : run cap (init n) (evs ++ fs) = some s' := by rw [run_append, h]; exact hf
    have hp' : ∀ e ∈ evs ++ fs, OnlyPusher p e := by
      intro e he
      rcases List.mem_append.mp he with he | he
      · exact hp e he
      · exact internal_onlyPusher p (hi e he)
    exact quiescent_blocked (InvB_run hrun) (InvD_run hp' hrun) hq ht

/-- from `Demo.mid` (producer asleep with `c`, consumer notified): wake, take `b` notifying the
producer, producer wakes and its item is accepted — four internal steps, `mu` falls from 6 to 0 -/
example : run 10 Demo.mid [.pullWake 1, .pullTake 1 Demo.b (some 0), .pushWake 0, .pushAdmit 0 none]
    = some { items := [Demo.c, Demo.a], cur := 5, closed := false, thr := [.idle, .idle, .idle],
             hist := [.accept 0 Demo.c, .take 1 Demo.b, .accept 0 Demo.b, .accept 0 Demo.a] } := by decide
example : mu Demo.mid = 6 := by decide
example : (4 : Nat) + 0 ≤ mu Demo.mid ∧ mu Demo.mid ≤ 4 * 3 :=
  let r := internal_steps_terminate (p := 0) Demo.run_mid (by decide)
    (fs := [.pullWake 1, .pullTake 1 Demo.b (some 0), .pushWake 0, .pushAdmit 0 none])
    (s' := { items := [Demo.c, Demo.a], cur := 5, closed := false, thr := [.idle, .idle, .idle],
             hist := [.accept 0 Demo.c, .take 1 Demo.b, .accept 0 Demo.b, .accept 0 Demo.a] })
    (by decide) (by decide)
  ⟨by have := r.1; simpa [mu, TStatus.wt] using this, r.2.1⟩
/-- `Demo.asleep` is quiescent with a consumer asleep on the empty open queue -/
example : Demo.asleep.thr[1]? = some .waitNE ∧ Demo.asleep.items = [] ∧ Demo.asleep.closed = false := by
  decide

end Ragc.Props.C06
