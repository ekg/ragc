import RagcModel.Lemmas.Pipeline
import RagcModel.Gen.Tables
import RagcModel.Lemmas.Canon
/-!
C04 — archive bytes do not depend on threads or timing: the *batches* that worker 0 classifies are
the same, as sets, in every execution of the pipeline.

Model: `Model/Pipeline.lean`. Every pushed item carries a ghost round index `rd` (contigs of round
`r`: `2r`, tokens of round `r`: `2r+1`); no guard reads it.

Vocabulary (`Lemmas/Pipeline.lean`):
* `sepFrom x p`, `PrioSep prog` — for items `x` pushed before `y` with `rd x < rd y`: `taskLt y x`
  (`x` is strictly greater in `ContigTask::cmp`), or a `waitEmpty` lies between them (decidable);
* `RdOk N prog` — the round indices are consistent with the token runs: non-decreasing along the
  push sequence, even exactly for contigs, `N` tokens with `rd = 2r+1` for every `r < rounds prog`
  and no item with `rd ≥ 2·rounds prog`;
* `WellFormedProgram N cap prog` — see `Props/C05.lean`;
* `roundContigs prog r` — the sequence numbers of the contigs pushed in round `r`.

What is NOT proved here: that the archive is a function of the batches as sets
(`F_order_insensitive`); that is exercised by the byte-identity runs of the harness.
-/
namespace Ragc.Props.C04
open Ragc.Pipeline

/-! ### `PrioSep` means what it says -/

/-- The recursive (decidable) definition of `PrioSep` is the statement "for items `x` pushed before
`y` with `rd x < rd y`: `taskLt y x`, or a `waitEmpty` lies between them in the program". -/
theorem prioSep_spec (prog : List Instr) :
    PrioSep prog ↔ ∀ a x b y c, prog = a ++ Instr.push x :: (b ++ Instr.push y :: c) → x.rd < y.rd →
      taskLt y x ∨ Instr.waitEmpty ∈ b := by
  simp only [prioSep_iff_sepFrom, sepFrom_iff]
  exact ⟨fun h a x b y c e => h a x _ e b y c rfl, fun h a x c' e b y c e' => h a x b y c (e' ▸ e)⟩

example : ¬ PrioSep [.push (.contig 0 5 1 1 0), .push (.token 0 7 1)] := by decide
example : PrioSep [.push (.contig 0 5 1 1 0), .waitEmpty, .push (.token 0 7 1)] := by decide

/-! ### `ContigTask::cmp` as translated from the source -/

/-- The value of the struct field `name` of `ContigTask` in the model's `Item`. -/
def fieldOf (name : String) (x : Item) : Option Int :=
  if name = "sample_priority" then some x.prio
  else if name = "cost" then some (x.cost : Int)
  else if name = "sequence" then some (x.seq : Int)
  else none

/-- `a < b` in the lexicographic chain of comparisons `keys` (`(field, reversed)`, as
`tools/gen_tables.py` reads them from `impl Ord for ContigTask`): `self.f.cmp(&other.f)` for a plain
key, `other.f.cmp(&self.f)` for a reversed one, `then_with` / `match … Equal =>` between them. A field
the model does not know makes the relation `False`, which `taskCmp_translated` would not survive. -/
def chainLt : List (String × Bool) → Item → Item → Prop
  | [], _, _ => False
  | (f, rev) :: rest, a, b =>
    match fieldOf f a, fieldOf f b with
    | some va, some vb =>
      (if rev then vb < va else va < vb) ∨ (va = vb ∧ chainLt rest a b)
    | _, _ => False

/-- The comparison chain that the translator extracts from `/repo`'s `impl Ord for ContigTask` on
this run is the one the pipeline model's `taskLt` uses. -/
theorem taskCmpKeys_pinned :
    Ragc.Gen.taskCmpKeys = [("sample_priority", false), ("cost", false), ("sequence", true)] := rfl

/-- … and, read as a lexicographic order, it IS `taskLt`, for all items. -/
theorem taskCmp_translated (a b : Item) : chainLt Ragc.Gen.taskCmpKeys a b ↔ taskLt a b := by
  rw [taskCmpKeys_pinned]
  simp [chainLt, fieldOf, taskLt, Int.natCast_inj]

/-! ### What a pull returns -/

/-- In every reachable state of a `PrioSep` program, the item a worker pulls has minimal `rd` among
the queued items, nothing with a smaller `rd` is still to be pushed (so everything with a smaller
`rd` has already been pushed and pulled), and it belongs to the round that is being collected
(`r = number of closed batches`): it is a contig of round `r` or a token of round `r`. -/
theorem pull_min_rd (prog : List Instr) (N cap : Nat) (s s' : State) (w : Nat) (x : Item)
    (hsep : PrioSep prog) (hwf : WellFormedProgram N cap prog) (hok : RdOk N prog)
    (hr : Reachable false prog cap N s) (hstep : step? false s (.pull w x) = some s') :
    (∀ y ∈ s.queue, x.rd ≤ y.rd) ∧ (∀ y ∈ items s.prog, x.rd ≤ y.rd) ∧
      (x.rd = 2 * s.batches.length ∨ x.rd = 2 * s.batches.length + 1) := by
  obtain ⟨h5, h4⟩ := inv45_reachable hwf.1 (fun _ => hwf.2) hsep hok hr
  cases stepI_of_step? hstep with
  | pull hw hm =>
    obtain ⟨hmin, hrd⟩ := h4.pull_rd hok h5.len hw hm
    exact ⟨fun y hy => hmin y (List.mem_append_left _ hy), fun y hy => hmin y (List.mem_append_right _ hy),
      hrd.imp And.right And.right⟩

/-! ### Who opens barrier 1 -/

/-- Round accounting per round: with `r` batches closed, the workers waiting at barrier 1 plus the
round-`r` tokens still queued or still to be pushed are exactly the `N` tokens of round `r`
(so every worker at barrier 1 holds a round-`r` token). When barrier 1 opens, all `N` round-`r`
tokens have been pulled, nothing of round `≤ r` is left anywhere, and the batch that is closed is a
permutation of the contigs of round `r`. -/
theorem round_tokens (prog : List Instr) (N cap : Nat) (s : State)
    (hsep : PrioSep prog) (hwf : WellFormedProgram N cap prog) (hok : RdOk N prog)
    (hr : Reachable false prog cap N s) :
    (s.workers.count (.bar 1) + s.queue.countP (fun y => y.rd == 2 * s.batches.length + 1)
        + (items s.prog).countP (fun y => y.rd == 2 * s.batches.length + 1)
        = if s.batches.length < rounds prog then N else 0) ∧
    (∀ s', step? false s (.release 1) = some s' →
        s.batches.length < rounds prog ∧
        (∀ y, y ∈ s.queue ∨ y ∈ items s.prog → 2 * (s.batches.length + 1) ≤ y.rd) ∧
        s.buffered.Perm (roundContigs prog s.batches.length)) := by
  obtain ⟨h5, h4⟩ := inv45_reachable hwf.1 (fun _ => hwf.2) hsep hok hr
  constructor
  · have := h4.accT
    rw [tally, pend, sumBy_append, sumBy_bar1W, sumBy_tokRW, sumBy_tokRW, hok.runs, ← Nat.add_assoc] at this
    exact this
  · intro s' hs
    cases stepI_of_step? hs with
    | release1 hne hall =>
      have h4' := h4.release1 hwf.1.npos hok h5.len hall
      have hlen : (s.batches ++ [s.buffered]).length = s.batches.length + 1 := List.length_append
      refine ⟨(hlen ▸ h4'.rle : s.batches.length + 1 ≤ rounds prog), fun y hy => hlen ▸ h4'.low y (List.mem_append.mpr hy), ?_⟩
      rw [List.perm_iff_count]; intro c
      have := h4'.done s.batches.length (hlen ▸ Nat.lt_succ_self _) c
      simp only [List.getElem_append_right (Nat.le_refl _), Nat.sub_self, List.getElem_cons_zero] at this
      rw [roundContigs, ← sumBy_ctgRW hok.parity, this]
    | release h2 _ _ _ => exact absurd h2 (by decide)

/-! ### The main theorem -/

/-- For EVERY execution (any interleaving of the producer and the workers, any `N ≥ 1`, any
capacity admitting each item): when the pipeline has terminated, the number of batches is the
number of token rounds, batch `r` is a permutation of the contigs pushed in round `r`, and nothing
was buffered after the last round. -/
theorem batches_schedule_independent (prog : List Instr) (N cap : Nat) (s : State)
    (hsep : PrioSep prog) (hwf : WellFormedProgram N cap prog) (hok : RdOk N prog)
    (hr : Reachable false prog cap N s) (hf : Final s) :
    s.batches.length = rounds prog ∧
      (∀ r (h : r < s.batches.length), (s.batches[r]).Perm (roundContigs prog r)) ∧ s.buffered = [] :=
  reachable_final_batches hwf.1 hr (fun _ => hwf.2) hsep hok hf

/-- The same with the repaired push guard (no size hypothesis). -/
theorem batches_schedule_independent_fixed (prog : List Instr) (N cap : Nat) (s : State)
    (hsep : PrioSep prog) (hwf : WellFormedShape N prog) (hok : RdOk N prog)
    (hr : Reachable true prog cap N s) (hf : Final s) :
    s.batches.length = rounds prog ∧
      (∀ r (h : r < s.batches.length), (s.batches[r]).Perm (roundContigs prog r)) ∧ s.buffered = [] :=
  reachable_final_batches hwf hr nofun hsep hok hf

/-- Two terminated executions of the same program — possibly with different worker counts being
impossible here since `N` is part of the program (token runs), but with arbitrary different
capacities and interleavings — have the same batches up to order inside each batch. -/
theorem two_runs_same_batches (prog : List Instr) (N cap₁ cap₂ : Nat) (s₁ s₂ : State)
    (hsep : PrioSep prog) (hwf₁ : WellFormedProgram N cap₁ prog) (hwf₂ : WellFormedProgram N cap₂ prog)
    (hok : RdOk N prog)
    (hr₁ : Reachable false prog cap₁ N s₁) (hf₁ : Final s₁)
    (hr₂ : Reachable false prog cap₂ N s₂) (hf₂ : Final s₂) :
    s₁.batches.length = s₂.batches.length ∧
      ∀ r (h₁ : r < s₁.batches.length) (h₂ : r < s₂.batches.length), (s₁.batches[r]).Perm (s₂.batches[r]) := by
  obtain ⟨a₁, b₁, _⟩ := batches_schedule_independent prog N cap₁ s₁ hsep hwf₁ hok hr₁ hf₁
  obtain ⟨a₂, b₂, _⟩ := batches_schedule_independent prog N cap₂ s₂ hsep hwf₂ hok hr₂ hf₂
  exact ⟨a₁.trans a₂.symm, fun r h₁ h₂ => (b₁ r h₁).trans (b₂ r h₂).symm⟩

/-! ### From batches to what is classified: arrival order inside a batch is irrelevant

`classify_raw_segments_at_barrier` drains the per-worker buffers and SORTS the result
(`Gen.classifySortsDrained`, `Canon.rawLe_translated`) before classifying it sequentially. So the
state after all rounds is a fold of an (unmodelled, arbitrary) function `F` over the sorted batches,
and it is the same in every execution. What remains outside is only that `F` itself is a
function — i.e. that classification and the store phase read nothing but their inputs (the ZSTD
context history of D-class changes such as `C04-sticky-zstd-ldm` is exactly such a hidden input;
that is what the byte-identity runs and C12's context-history cases are for). -/

/-- the translator saw `raw_segs.sort()` as the first statement reading the drained vector -/
theorem classify_sorts_drained : Ragc.Gen.classifySortsDrained = true := rfl

open Ragc.Canon in
/-- **Schedule independence carried through classification.** Two terminated executions of the same
program (any capacities, any interleavings); `segsOf c` are the raw segments contig `c` is cut into
(a function of the contig and the splitters, C10/C11); `d₁`, `d₂` are what the barrier rounds of the
two runs drained — any interleaving of the workers' appends, i.e. any permutation of the segments of
the batch's contigs. If no two segments of a round share `(sample, contig, place)`, the state after
all rounds is the same, whatever `F` (classification + store) computes from a sorted batch. -/
theorem classified_state_schedule_independent {σ : Type} (F : σ → List RawSeg → σ) (init : σ)
    (segsOf : Nat → List RawSeg)
    (prog : List Instr) (N cap₁ cap₂ : Nat) (s₁ s₂ : State)
    (hsep : PrioSep prog) (hwf₁ : WellFormedProgram N cap₁ prog) (hwf₂ : WellFormedProgram N cap₂ prog)
    (hok : RdOk N prog)
    (hr₁ : Reachable false prog cap₁ N s₁) (hf₁ : Final s₁)
    (hr₂ : Reachable false prog cap₂ N s₂) (hf₂ : Final s₂)
    (d₁ d₂ : List (List RawSeg))
    (hl₁ : d₁.length = s₁.batches.length) (hl₂ : d₂.length = s₂.batches.length)
    (hd₁ : ∀ r (h : r < d₁.length) (h' : r < s₁.batches.length), (d₁[r]).Perm ((s₁.batches[r]).flatMap segsOf))
    (hd₂ : ∀ r (h : r < d₂.length) (h' : r < s₂.batches.length), (d₂[r]).Perm ((s₂.batches[r]).flatMap segsOf))
    (hk : ∀ r, KeysDistinct ((roundContigs prog r).flatMap segsOf)) :
    (d₁.map canon).foldl F init = (d₂.map canon).foldl F init := by
  obtain ⟨a₁, b₁, _⟩ := batches_schedule_independent prog N cap₁ s₁ hsep hwf₁ hok hr₁ hf₁
  obtain ⟨a₂, b₂, _⟩ := batches_schedule_independent prog N cap₂ s₂ hsep hwf₂ hok hr₂ hf₂
  apply rounds_order_insensitive F d₁ d₂ init (hl₁.trans (a₁.trans (a₂.symm.trans hl₂.symm)))
  intro r h₁ h₂
  have p₁ := (hd₁ r h₁ (hl₁ ▸ h₁)).trans ((b₁ r (hl₁ ▸ h₁)).flatMap_right segsOf)
  have p₂ := (hd₂ r h₂ (hl₂ ▸ h₂)).trans ((b₂ r (hl₂ ▸ h₂)).flatMap_right segsOf)
  refine ⟨p₁.trans p₂.symm, ?_⟩
  intro a ha b hb hab
  exact hk r a (p₁.subset ha) b (p₁.subset hb) hab

/-! ### The programs the CLI generates satisfy the hypotheses -/

/-- For all inputs (any number of samples and contigs with
`#samples + #contigs < 2^31 - 1 - 1 000 000`, so that priorities stay above the 1 000 000 of the
`sync_and_flush`/final tokens), any `N ≥ 1` and any pack size, the generated program is well formed
(C05), its round indices are consistent, and the number of rounds is the number of token runs. -/
theorem programOf_wellFormed (single : Bool) (N pack : Nat) (samples : List (List Nat))
    (hN : 1 ≤ N) (hw : weight samples < 2146483647) :
    WellFormedShape N (programOf single N pack samples) ∧ RdOk N (programOf single N pack samples) :=
  ⟨(programOf_spec single hN samples hw).1, (programOf_spec single hN samples hw).2.1⟩

/-- Multi-file mode: the first file's contigs are separated from everything later by `drain`'s
wait, the `sync_and_flush` tokens by its own wait, and the final tokens (priority 1 000 000) are
below every contig priority. -/
theorem multi_file_prioSep (N pack : Nat) (samples : List (List Nat))
    (hN : 1 ≤ N) (hw : weight samples < 2146483647) : PrioSep (programOf false N pack samples) :=
  (programOf_spec false hN samples hw).2.2

/-- Single-file mode with the current rule (tokens of a pack boundary carry the priority of the
contigs pushed so far and cost 0; later contigs get a strictly smaller priority from the one
decreasing counter): `PrioSep` holds for every input. -/
theorem single_file_prioSep (N pack : Nat) (samples : List (List Nat))
    (hN : 1 ≤ N) (hw : weight samples < 2146483647) : PrioSep (programOf true N pack samples) :=
  (programOf_spec true hN samples hw).2.2

/-- Hence: every terminated execution of the pipeline on the program of a `create` run closes the
same batches, for every mode, input, `N ≥ 1`, pack size, capacity `≥` the largest contig and
interleaving. -/
theorem create_batches_schedule_independent (single : Bool) (N pack cap : Nat) (samples : List (List Nat))
    (hN : 1 ≤ N) (hw : weight samples < 2146483647)
    (hcap : ∀ x ∈ items (programOf single N pack samples), x.size ≤ cap)
    (s : State) (hr : Reachable false (programOf single N pack samples) cap N s) (hf : Final s) :
    s.batches.length = rounds (programOf single N pack samples) ∧
      (∀ r (h : r < s.batches.length), (s.batches[r]).Perm (roundContigs (programOf single N pack samples) r)) ∧
      s.buffered = [] := by
  obtain ⟨hwf, hok, hsep⟩ := programOf_spec (pack := pack) single hN samples hw
  exact batches_schedule_independent _ N cap s hsep ⟨hwf, hcap⟩ hok hr hf

example : programOf true 2 2 [[5, 3, 0, 7]] =
    [.push (.contig 0 2147483647 5 5 0), .push (.token 1 2147483647 1), .push (.token 1 2147483647 1),
     .push (.contig 1 2147483646 3 3 2), .push (.contig 2 2147483646 7 7 2),
     .push (.token 0 1000000 3), .push (.token 0 1000000 3), .close] := by decide +kernel
example : rounds (programOf true 2 2 [[5, 3, 0, 7]]) = 2 ∧ roundContigs (programOf true 2 2 [[5, 3, 0, 7]]) 1 = [1, 2] := by decide +kernel
example : PrioSep (programOf true 2 2 [[5, 3, 0, 7]]) := by decide +kernel
example : PrioSep (programOf false 2 50 [[5, 3], [4], [2, 2]]) := by decide +kernel

/-- a complete execution of the 2-worker program above (hypotheses of the main theorem are
satisfiable: a reachable final state exists, and its batches are the rounds) -/
def demoRun : List Event :=
  [.prod, .pull 1 (.contig 0 2147483647 5 5 0), .prod, .prod, .pull 0 (.token 1 2147483647 1), .prod,
   .buffer 1, .pull 1 (.token 1 2147483647 1),
   .release 1, .advance 0, .advance 1, .release 2, .advance 0, .advance 1,
   .release 3, .advance 0, .advance 1, .release 4, .advance 1, .pull 1 (.contig 1 2147483646 3 3 2),
   .prod, .advance 0, .pull 0 (.contig 2 2147483646 7 7 2), .prod, .prod, .prod, .buffer 0, .buffer 1,
   .pull 1 (.token 0 1000000 3), .pull 0 (.token 0 1000000 3),
   .release 1, .advance 0, .advance 1, .release 2, .advance 0, .advance 1,
   .release 3, .advance 0, .advance 1, .release 4, .advance 0, .advance 1, .exit 1, .exit 0]

set_option maxRecDepth 20000 in
example : ∃ s, Reachable false (programOf true 2 2 [[5, 3, 0, 7]]) 8 2 s ∧ Final s ∧ s.batches = [[0], [2, 1]] := by
  refine ⟨{ prog := [], queue := [], closed := true, cap := 8, workers := [.exited, .exited], buffered := [],
            batches := [[0], [2, 1]] }, replay_reachable (es := demoRun) (i := 0) .init (by decide +kernel), by decide, rfl⟩

/-! ### Defect D4 (fixed in 5761cef): the old single-file rule violates `PrioSep` and the batches
depend on the schedule -/

/-- the program the OLD rule (`pushContigOld`: token priority `new + 1_000_000`) generates for one
sample with three 5-base contigs, 2 workers, pack size 2 -/
def oldProg : List Instr :=
  (pushContigOld 2 2 { Gen.init with nextPrio := 2147483646 } 2147483647 5).1 ++
  (pushContigOld 2 2 (pushContigOld 2 2 { Gen.init with nextPrio := 2147483646 } 2147483647 5).2.1 2147483647 5).1 ++
  [.push (.contig 2 2147483646 5 5 2), .push (.token 0 1000000 3), .push (.token 0 1000000 3), .close]

example : oldProg =
    [.push (.contig 0 2147483647 5 5 0), .push (.token 1 2148483646 1), .push (.token 1 2148483646 1),
     .push (.contig 1 2147483646 5 5 2), .push (.contig 2 2147483646 5 5 2),
     .push (.token 0 1000000 3), .push (.token 0 1000000 3), .close] := by decide +kernel

def roundEvs : List Event :=
  [.release 1, .advance 0, .advance 1, .release 2, .advance 0, .advance 1,
   .release 3, .advance 0, .advance 1, .release 4, .advance 0, .advance 1]

/-- the producer runs ahead: both tokens overtake contig 0 -/
def oldRunA : List Event :=
  List.replicate 8 .prod ++
  [.pull 0 (.token 1 2148483646 1), .pull 1 (.token 1 2148483646 1)] ++ roundEvs ++
  [.pull 0 (.contig 0 2147483647 5 5 0), .buffer 0, .pull 0 (.contig 1 2147483646 5 5 2), .buffer 0,
   .pull 1 (.contig 2 2147483646 5 5 2), .buffer 1,
   .pull 0 (.token 0 1000000 3), .pull 1 (.token 0 1000000 3)] ++ roundEvs ++ [.exit 0, .exit 1]

/-- a worker takes contig 0 before the tokens are pushed -/
def oldRunB : List Event :=
  [.prod, .pull 0 (.contig 0 2147483647 5 5 0), .buffer 0] ++ List.replicate 7 .prod ++
  [.pull 0 (.token 1 2148483646 1), .pull 1 (.token 1 2148483646 1)] ++ roundEvs ++
  [.pull 0 (.contig 1 2147483646 5 5 2), .buffer 0,
   .pull 1 (.contig 2 2147483646 5 5 2), .buffer 1,
   .pull 0 (.token 0 1000000 3), .pull 1 (.token 0 1000000 3)] ++ roundEvs ++ [.exit 0, .exit 1]

def oldFinal (b : List (List Nat)) : State :=
  { prog := [], queue := [], closed := true, cap := 100, workers := [.exited, .exited], buffered := [], batches := b }

set_option maxRecDepth 20000 in
/-- Negation witness: the old rule's program is well formed but not `PrioSep`, and two executions
of it terminate with different batches (`[[], [0,1,2]]` vs `[[0], [1,2]]`): the archive contents
depended on timing. -/
theorem old_rule_schedule_dependent :
    ¬ PrioSep oldProg ∧
    Reachable false oldProg 100 2 (oldFinal [[], [0, 1, 2]]) ∧ Final (oldFinal [[], [0, 1, 2]]) ∧
    Reachable false oldProg 100 2 (oldFinal [[0], [1, 2]]) ∧ Final (oldFinal [[0], [1, 2]]) := by
  refine ⟨by decide +kernel, ?_, by decide, ?_, by decide⟩
  · exact replay_reachable (es := oldRunA) (i := 0) .init (by decide +kernel)
  · exact replay_reachable (es := oldRunB) (i := 0) .init (by decide +kernel)

end Ragc.Props.C04
