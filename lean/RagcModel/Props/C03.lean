import RagcModel.Gen.Tables
import RagcModel.Lemmas.ListFacts
import RagcModel.Lemmas.Batches
import RagcModel.Lemmas.Register
/-!
C03 — the sample and contig catalogue is preserved exactly.
Only property theorems live here (helper lemmas are in `Lemmas/`). The models are in
`Model/{CollVarint,Zigzag,Names,Details}.lean` and mirror ragc-common/src/collection.rs.
-/
namespace Ragc.Props.C03
open Ragc.CollVarint Ragc.Zigzag Ragc.Names Ragc.Details

/-- The prefix varint round-trips every `u32`, whatever follows it in the stream. -/
theorem collvarint_roundtrip (n : Nat) (r : List Nat) (h : n < 2 ^ 32) :
    decode (encode n ++ r) = some (n, r) :=
  decode_encode n h r

example : decode (encode 270549119 ++ [7]) = some (270549119, [7]) :=
  collvarint_roundtrip 270549119 [7] (by decide)

/-- Unique parsing: the varint is a prefix code — a stream that starts with the code of `n` cannot
    also be read as starting with the code of a different `m`, whatever follows either. -/
theorem collvarint_prefix_free (n m : Nat) (r r' : List Nat) (hn : n < 2 ^ 32) (hm : m < 2 ^ 32)
    (h : encode n ++ r = encode m ++ r') : n = m ∧ r = r' :=
  Codec.prefix_free_of_roundtrip collvarint_roundtrip hn hm h

example : encode 127 ++ [5] ≠ encode 128 ++ [5] := by decide

/-- Truncated input is an error: every proper prefix of an encoding is rejected. -/
theorem collvarint_truncated_err (n m : Nat) (h : n < 2 ^ 32) (hm : m < (encode n).length) :
    decode ((encode n).take m) = none :=
  decode_truncated n m hm

example : decode ((encode 3000000).take 3) = none := collvarint_truncated_err 3000000 3 (by decide) (by decide)

/-- Predictive zigzag round-trips (values and predictions below 2^63: nothing wraps). -/
theorem zigzag_roundtrip (x p : Nat) (hx : x < 2 ^ 63) (hp : p < 2 ^ 63) :
    zigzagDecode (zigzagEncode x p) p = x :=
  zigzagDecode_encode x p (two_mul_lt_U64 hx) (two_mul_lt_U64 hp)

example : zigzagDecode (zigzagEncode 59990 60031) 60031 = 59990 :=
  zigzag_roundtrip 59990 60031 (by decide) (by decide)

/-- The encoder is injective for a fixed prediction: two different values never share a code. -/
theorem zigzag_injective (x y p : Nat) (hx : x < 2 ^ 63) (hy : y < 2 ^ 63) (hp : p < 2 ^ 63)
    (h : zigzagEncode x p = zigzagEncode y p) : x = y := by
  rw [← zigzag_roundtrip x p hx hp, ← zigzag_roundtrip y p hy hp, h]

example : zigzagEncode 5 7 ≠ zigzagEncode 9 7 := by decide

/-- … and the code is canonical: the decoder is a right inverse too wherever nothing wraps
    (`v + 2p < 2^64`, e.g. all `u32` values), so two different code words never denote the same
    value — the detail stream of a catalogue is determined by the catalogue (used by C04). -/
theorem zigzag_code_canonical (v w p : Nat) (hv : v + 2 * p < 2 ^ 64) (hw : w + 2 * p < 2 ^ 64)
    (h : zigzagDecode v p = zigzagDecode w p) : v = w := by
  rw [← zigzagEncode_decode v p hv, ← zigzagEncode_decode w p hw, h]

example : zigzagEncode (zigzagDecode 82 60031) 60031 = 82 ∧ zigzagDecode 82 60031 = 60072 := by decide

/-- The hypothesis cannot be dropped: where `v + 2p` wraps, two code words collide. -/
theorem zigzag_code_collision_when_wrapping :
    zigzagDecode (2 ^ 63) (2 ^ 63 - 1) = zigzagDecode (2 ^ 63 - 1) (2 ^ 63 - 1) := by decide

/-- The code of a value that differs from its prediction is at least 1, so the `+ 1` escape of
    the in-group-id coding (codes ≥ 2) never collides with the codes 0 ("id 0") and 1 ("as
    predicted"). -/
theorem zigzag_escape_no_collision (x p : Nat) (hx : x < 2 ^ 64) (hp : p < 2 ^ 63) (hne : x ≠ p) :
    2 ≤ zigzagEncode x p + 1 :=
  Nat.succ_le_succ (zigzagEncode_pos x p (two_mul_lt_U64 hp) hne)

example : 2 ≤ zigzagEncode 3 7 + 1 := zigzag_escape_no_collision 3 7 (by decide) (by decide) (by decide)

/-- NUL-terminated strings: any 7-bit string without NUL, whatever follows. -/
theorem string_roundtrip (s r : List Nat) (h : ∀ b ∈ s, 1 ≤ b ∧ b ≤ 127) :
    decodeString (encodeString s ++ r) = some (s, r) :=
  decodeString_encodeString s r h

example : decodeString (encodeString [72, 71, 32, 9] ++ [1]) = some ([72, 71, 32, 9], [1]) :=
  string_roundtrip _ _ (by decide)

/-- Unique parsing of NUL-terminated strings: two different names never serialise to streams one of
    which could be read as the other (the name table of an archive determines its stream). -/
theorem string_prefix_free (s s' r r' : List Nat) (hs : ∀ b ∈ s, 1 ≤ b ∧ b ≤ 127)
    (hs' : ∀ b ∈ s', 1 ≤ b ∧ b ≤ 127) (h : encodeString s ++ r = encodeString s' ++ r') :
    s = s' ∧ r = r' :=
  Codec.prefix_free_of_roundtrip string_roundtrip hs hs' h

example : encodeString [72, 71] ++ [1] ≠ encodeString [72] ++ [71, 1] := by decide

/-- Sample names come back exactly, in order. -/
theorem sample_names_roundtrip (names : List Name) (hlen : names.length < 2 ^ 32)
    (h : ∀ n ∈ names, ∀ b ∈ n, 1 ≤ b ∧ b ≤ 127) :
    decodeSampleNames (encodeSampleNames names) = some names :=
  decodeSampleNames_encodeSampleNames names hlen h

example : decodeSampleNames (encodeSampleNames [[72, 71, 49], [115, 32, 50]]) = some [[72, 71, 49], [115, 32, 50]] :=
  sample_names_roundtrip _ (by decide) (by decide)

/-- Contig names of a batch of samples come back verbatim and in order — for ANY table of names
    over the bytes 1..127 (any number of space-separated fields, empty fields, tabs, runs longer
    than 100, consecutive names sharing any subset of fields). `avail` is the number of samples the
    reader has from the cursor on; the counts are written as `u32`. -/
theorem names_roundtrip (samples : List (List Name)) (avail : Nat)
    (hlen : samples.length < 2 ^ 32) (hav : samples.length ≤ avail)
    (hcnt : ∀ s ∈ samples, s.length < 2 ^ 32)
    (h : ∀ s ∈ samples, ∀ n ∈ s, ∀ b ∈ n, 1 ≤ b ∧ b ≤ 127) :
    decodeNames avail (encodeNames samples) = .ok samples :=
  decodeNames_encodeNames samples avail hlen hav fun s hs => ⟨hcnt s hs, h s hs⟩

-- "chr1 a  b", "chr2 a  b" (DELTA, same-marker, empty field), "x" (FULL again)
example : decodeNames 1 (encodeNames [[[99, 104, 114, 49, 32, 97, 32, 32, 98], [99, 104, 114, 50, 32, 97, 32, 32, 98], [120]]])
    = .ok [[[99, 104, 114, 49, 32, 97, 32, 32, 98], [99, 104, 114, 50, 32, 97, 32, 32, 98], [120]]] :=
  names_roundtrip _ 1 (by decide) (by decide) (by decide) (by decide)

/-- Every descriptor table (group id, in-group id, orientation, raw length per segment) written
    as five streams is read back unchanged: arbitrary group ids, in-group ids that repeat, go
    back, are 0 or jump, lengths anywhere relative to `segment_size + k`. Bounds as forced by the
    code: counts and fields are `u32`; in-group ids stay below `i32::MAX` (the predictor computes
    `prev + 1` on `i32`); `segment_size + k ≤ 2^31` (the length code is cut to `u32`).
    `have_` = contig counts of the reader's samples from the cursor on (`fits`: the batch does
    not describe more samples / contigs than the reader has — otherwise the Rust panics). -/
theorem details_roundtrip (segSize k : Nat) (b : Batch) (have_ : List Nat)
    (hpred : segSize + k ≤ 2 ^ 31)
    (hn : b.length < 2 ^ 32) (hcnt : ∀ s ∈ b, s.length < 2 ^ 32 ∧ ∀ c ∈ s, c.length < 2 ^ 32)
    (hseg : ∀ s ∈ b, ∀ c ∈ s, ∀ g ∈ c, g.group < 2 ^ 32 ∧ g.inGroup + 1 < 2 ^ 31 ∧ g.rawLen < 2 ^ 32)
    (hfit : fits have_ b = true) :
    decodeDetailsL segSize k have_ (encodeDetails segSize k b) = .ok b :=
  decodeDetailsL_encodeDetails segSize k b have_ hpred ⟨hn, hcnt⟩ hseg hfit

-- one group visited with ids 0,1,2 (predictor hits), then back to 1, a jump to 40, id 0 again;
-- lengths at, just below and far from segment_size + k; both orientations
example : decodeDetailsL 60000 31 [2, 1]
    (encodeDetails 60000 31
      [[[⟨93, 0, false, 60031⟩, ⟨93, 1, true, 60030⟩], [⟨93, 2, false, 5⟩]], [[⟨93, 1, false, 200000⟩, ⟨93, 40, true, 60031⟩, ⟨17, 0, false, 0⟩]]])
    = .ok [[[⟨93, 0, false, 60031⟩, ⟨93, 1, true, 60030⟩], [⟨93, 2, false, 5⟩]], [[⟨93, 1, false, 200000⟩, ⟨93, 40, true, 60031⟩, ⟨17, 0, false, 0⟩]]] :=
  details_roundtrip 60000 31 _ [2, 1] (by decide) (by decide) (by decide) (by decide) (by decide)

-- The bounds of `details_roundtrip` are forced (release-profile arithmetic; the dev profile panics
-- on the overflowing `+`): (1) `segment_size + k > 2^31`: the length code is cut to `u32`;
-- (2) in-group id `u32::MAX` in a group already seen: the `+ 1` escape wraps to the code 0.
example : decodeDetailsL 2147483658 31 [1] (encodeDetails 2147483658 31 [[[⟨7, 0, false, 5⟩]]])
    = .ok [[[⟨7, 0, false, 2147483653⟩]]] := by decide
example : decodeDetailsL 60000 31 [1] (encodeDetails 60000 31 [[[⟨7, 3, false, 5⟩, ⟨7, 4294967295, false, 5⟩]]])
    = .ok [[[⟨7, 3, false, 5⟩, ⟨7, 0, false, 5⟩]]] := by decide

/-- Encoder and decoder evolve the in-group-id predictor table identically (for the exact C++
    update rule `id as i32 > prev && id > 0`), from any admissible table. -/
theorem details_predictor_sync (pred : Nat) (t : Table) (segs : List Seg)
    (ht : ∀ g, -1 ≤ t.get g ∧ t.get g + 1 < 2 ^ 31)
    (hseg : ∀ g ∈ segs, g.group < 2 ^ 32 ∧ g.inGroup + 1 < 2 ^ 31 ∧ g.rawLen < 2 ^ 32) :
    decFinalTable t (encSegs pred t segs) = encFinalTable t segs :=
  decFinalTable_encSegs pred segs t ht hseg

example : decFinalTable [] (encSegs 60031 [] [⟨93, 3, false, 1⟩, ⟨93, 1, false, 1⟩, ⟨93, 4, false, 1⟩])
    = encFinalTable [] [⟨93, 3, false, 1⟩, ⟨93, 1, false, 1⟩, ⟨93, 4, false, 1⟩] :=
  details_predictor_sync 60031 [] _ (by intro g; simp [Table.get]) (by decide)

/-- Storing the catalogue in batches of 50 samples (agc_compressor.rs) and loading batches
    `0..n-1` in order on a fresh collection (decompressor.rs) returns every sample with its
    contig names and descriptors, and the cursor `samples_loaded` ends at the number of samples —
    for any number of samples (several batches included). ZSTD/archive = identity here. -/
theorem batches_roundtrip (segSize k : Nat) (ss : List Sample)
    (hpred : segSize + k ≤ 2 ^ 31) (hlen : ss.length < 2 ^ 32)
    (hok : ∀ s ∈ ss, (∀ b ∈ s.name, 1 ≤ b ∧ b ≤ 127) ∧ s.contigs.length < 2 ^ 32 ∧
      ∀ c ∈ s.contigs, (∀ b ∈ c.name, 1 ≤ b ∧ b ≤ 127) ∧ c.segs.length < 2 ^ 32 ∧
        ∀ g ∈ c.segs, g.group < 2 ^ 32 ∧ g.inGroup + 1 < 2 ^ 31 ∧ g.rawLen < 2 ^ 32) :
    ∃ lb, storeLoad segSize k 50 ss = .ok { samples := ss, loaded := ss.length, lastBatch := lb } :=
  storeLoad_ok segSize k 50 ss (by decide) (by decide) hpred hlen hok

example : ∃ lb, storeLoad 60000 31 50
    (List.replicate 120 ⟨[83], [⟨[99, 49, 32, 120], [⟨93, 0, false, 60031⟩]⟩, ⟨[99, 50, 32, 120], [⟨93, 1, true, 7⟩]⟩]⟩)
    = .ok { samples := List.replicate 120 ⟨[83], [⟨[99, 49, 32, 120], [⟨93, 0, false, 60031⟩]⟩, ⟨[99, 50, 32, 120], [⟨93, 1, true, 7⟩]⟩]⟩,
            loaded := (List.replicate 120 (⟨[83], [⟨[99, 49, 32, 120], [⟨93, 0, false, 60031⟩]⟩, ⟨[99, 50, 32, 120], [⟨93, 1, true, 7⟩]⟩]⟩ : Sample)).length,
            lastBatch := lb } :=
  batches_roundtrip 60000 31 _ (by decide) (List.length_replicate ▸ by decide) fun s hs =>
    List.eq_of_mem_replicate hs ▸ by decide

/-- Registration: the sample list is the list of sample names in first-seen order, and the
    contig list of every sample is the list of contig names pushed for it, in push order (a
    repeated (sample, contig) pair is ignored). Stated for non-empty sample names (with an empty
    one the code substitutes the first word of the contig name, `storedName`). -/
theorem register_order (pairs : List (Name × Name)) (h : ∀ p ∈ pairs, p.1 ≠ []) :
    ∃ ss, registerAll [] pairs = some ss ∧
      samplesList ss = firstSeen (pairs.map Prod.fst) ∧
      ∀ s, (contigList ss s).getD [] = firstSeen ((pairs.filter (fun p => p.1 = s)).map Prod.snd) := by
  refine ⟨registerAllStored [] pairs, registerAll_nonempty pairs [] h, ?_, ?_⟩
  · rw [samplesList_registerAllStored]; exact accSeen_nil _
  · intro s
    have := contigsOf_registerAllStored pairs s []
    simp only [contigsOf] at this
    rw [this]
    exact accSeen_nil _

-- B/x, A/y, B/z, A/y again, B/x again: samples [B, A]; B ↦ [x, z]; A ↦ [y]
example : ∃ ss, registerAll [] [([66], [120]), ([65], [121]), ([66], [122]), ([65], [121]), ([66], [120])] = some ss ∧
    samplesList ss = [[66], [65]] ∧ (contigList ss [66]).getD [] = [[120], [122]] ∧ (contigList ss [65]).getD [] = [[121]] := by
  obtain ⟨ss, h1, h2, h3⟩ := register_order
    [([66], [120]), ([65], [121]), ([66], [122]), ([65], [121]), ([66], [120])] (by decide)
  exact ⟨ss, h1, by rw [h2]; decide, by rw [h3]; decide, by rw [h3]; decide⟩

/-! ### constants regenerated from the source (translator tie) -/

/-- The thresholds, prefixes and masks that `tools/gen_tables.py` evaluates from the constant
    expressions in `impl CollectionVarInt` (collection.rs) on every run are the ones the model of
    the prefix varint hard-wires; a change of any of them in the source breaks this obligation. -/
theorem collvarint_constants_pinned :
    Ragc.Gen.collThr = [Ragc.CollVarint.THR1, Ragc.CollVarint.THR2, Ragc.CollVarint.THR3, Ragc.CollVarint.THR4] ∧
    Ragc.Gen.collPref = [0, 0x80, 0xC0, 0xE0, 0xF0] ∧
    Ragc.Gen.collMask = [0x80, 0xC0, 0xE0, 0xF0] := by decide

end Ragc.Props.C03
