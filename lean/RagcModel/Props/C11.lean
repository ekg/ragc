import RagcModel.Lemmas.SplittersSegment
import RagcModel.Props.C20
/-!
C11 — splitter selection: deterministic, strand-symmetric, singleton-only, spaced.
Only property theorems live here (helpers are in `Lemmas/Splitters*.lean`).

`determineSplitters contigs k seg = (splitters, singletons, duplicates)` is the one function that
`determine_splitters`, `determine_splitters_streaming` and
`determine_splitters_streaming_first_sample` are claimed (and checked by the harness, under rayon
pools of 1/2/4/16 threads) to compute on the contig list each of them reads.
-/
namespace Ragc.Props.C11
open Ragc.Kmer Ragc.Splitters

/-- The reference used in the non-vacuity examples: k = 3, segment size 4, three contigs
    (the second contains an `N`, the third is shorter than k). -/
def exRef : List (List UInt64) :=
  [[0, 1, 2, 3, 0, 0, 2, 1, 3, 3, 1, 0, 2, 2], [3, 1, 1, 4, 0, 1, 2, 0], [2, 2]]

/-! ### 1. `remove_non_singletons` on a sorted vector -/

/-- On a sorted list the singleton scan returns exactly the values occurring once, the duplicate
    scan exactly those occurring at least twice, each once and in increasing order; the
    two-output variant returns the same pair. -/
theorem remove_non_singletons_spec (l : List UInt64) (hs : l.Pairwise (· ≤ ·)) :
    (∀ z, z ∈ removeNonSingletons l ↔ l.count z = 1)
    ∧ (∀ z, z ∈ duplicatesOf l ↔ 2 ≤ l.count z)
    ∧ (removeNonSingletons l).Pairwise (· < ·)
    ∧ (duplicatesOf l).Pairwise (· < ·)
    ∧ removeNonSingletonsWithDuplicates l = (removeNonSingletons l, duplicatesOf l) :=
  ⟨mem_removeNonSingletons hs, mem_duplicatesOf hs, removeNonSingletons_strict hs,
    duplicatesOf_strict hs, removeNonSingletonsWithDuplicates_eq l⟩

example : removeNonSingletons [1, 2, 2, 3, 3, 3, 4, 5, 5, 6] = [1, 4, 6]
    ∧ duplicatesOf [1, 2, 2, 3, 3, 3, 4, 5, 5, 6] = [2, 3, 5]
    ∧ ([1, 2, 2, 3, 3, 3, 4, 5, 5, 6] : List UInt64).Pairwise (· ≤ ·) := by decide +kernel

/-! ### 2. Singletons and duplicates of a reference -/

/-- The singleton set is exactly the canonical k-mers occurring once in the reference, the
    duplicate set exactly those occurring at least twice (counts over all contigs). -/
theorem singletons_dups_count (cs : List (List UInt64)) (k seg : Nat) (z : UInt64) :
    (z ∈ (determineSplitters cs k seg).2.1 ↔ (allKmers cs k).count z = 1)
    ∧ (z ∈ (determineSplitters cs k seg).2.2 ↔ 2 ≤ (allKmers cs k).count z) := by
  rw [determineSplitters_snd]
  have hs := sortKmers_sorted (allKmers cs k)
  have hc := (sortKmers_perm (allKmers cs k)).count_eq z
  exact ⟨by rw [mem_removeNonSingletons hs, hc], by rw [mem_duplicatesOf hs, hc]⟩

example : (9223372036854775808 : UInt64) ∈ (determineSplitters exRef 3 4).2.1
    ∧ (1729382256910270464 : UInt64) ∈ (determineSplitters exRef 3 4).2.2
    ∧ (allKmers exRef 3).length = 15 :=
  ⟨(singletons_dups_count exRef 3 4 _).1.mpr (by decide +kernel),
   (singletons_dups_count exRef 3 4 _).2.mpr (by decide +kernel), by decide +kernel⟩

/-- No k-mer is both a singleton and a duplicate. -/
theorem singletons_dups_disjoint (cs : List (List UInt64)) (k seg : Nat) (z : UInt64)
    (h1 : z ∈ (determineSplitters cs k seg).2.1) : z ∉ (determineSplitters cs k seg).2.2 := by
  intro h2
  have a := (singletons_dups_count cs k seg z).1.mp h1
  have b := (singletons_dups_count cs k seg z).2.mp h2
  omega

example : (9223372036854775808 : UInt64) ∈ (determineSplitters exRef 3 4).2.1
    ∧ (9223372036854775808 : UInt64) ∉ (determineSplitters exRef 3 4).2.2 :=
  have h := (singletons_dups_count exRef 3 4 9223372036854775808).1.mpr (by decide +kernel)
  ⟨h, singletons_dups_disjoint exRef 3 4 _ h⟩

/-! ### 3. Splitters are singletons -/

/-- Every selected splitter is a candidate, i.e. a canonical k-mer that occurs exactly once in
    the whole reference. -/
theorem splitters_subset_singletons (cs : List (List UInt64)) (k seg : Nat) (s : UInt64)
    (h : s ∈ (determineSplitters cs k seg).1) :
    s ∈ (determineSplitters cs k seg).2.1 ∧ (allKmers cs k).count s = 1 := by
  obtain ⟨c, _, p, hp, rfl⟩ := (mem_splitters_iff cs k seg s).mp h
  have hcount := of_decide_eq_true (findLoop_isCand _ _ _ _ _ _ _ p hp)
  exact ⟨(singletons_dups_count cs k seg _).1.mpr hcount, hcount⟩

/-- The splitter list is the second pass run with the from-scratch predicate "occurs exactly once
    among the canonical k-mers of the reference" as candidate test. -/
theorem splitters_eq_spec (cs : List (List UInt64)) (k seg : Nat) :
    (determineSplitters cs k seg).1
      = cs.flatMap (findSplittersInContig
          (fun v => decide ((allKmers cs k).count v = 1)) k seg) :=
  determineSplitters_fst_spec cs k seg

example : (determineSplitters exRef 3 4).1
    = [12682136550675316736, 9223372036854775808, 2882303761517117440,
       11529215046068469760, 6917529027641081856] := by
  rw [splitters_eq_spec]; decide +kernel

/-! ### 4. Contig order does not matter -/

/-- The singleton and duplicate lists (sorted, hence canonical) depend only on the multiset of
    canonical k-mers of the reference — and not on the segment size. -/
theorem singletons_perm_invariant (c₁ c₂ : List (List UInt64)) (k s₁ s₂ : Nat)
    (h : (allKmers c₁ k).Perm (allKmers c₂ k)) :
    (determineSplitters c₁ k s₁).2 = (determineSplitters c₂ k s₂).2 := by
  rw [determineSplitters_snd, determineSplitters_snd, sortKmers_congr h]

/-- … in particular they are unchanged by permuting the contigs. -/
theorem contigs_perm_invariant (c₁ c₂ : List (List UInt64)) (k s₁ s₂ : Nat) (h : c₁.Perm c₂) :
    (determineSplitters c₁ k s₁).2 = (determineSplitters c₂ k s₂).2 :=
  singletons_perm_invariant c₁ c₂ k s₁ s₂ (List.Perm.flatMap_right _ h)

example : (determineSplitters exRef 3 4).2 = (determineSplitters exRef.reverse 3 9).2
    ∧ exRef.Perm exRef.reverse ∧ exRef ≠ exRef.reverse :=
  ⟨contigs_perm_invariant _ _ 3 4 9 (List.reverse_perm _).symm, (List.reverse_perm _).symm,
    by decide +kernel⟩

/-! ### 5. Spacing of the picks inside a contig -/

/-- The second pass over one contig, for any candidate predicate. Its picks are: loop picks
    (each at least `segment_size` positions after the previous one — the `current_len` counter),
    followed by at most one end-of-contig pick (the right-most candidate seen since the last
    reset), which lies strictly after every loop pick. Every pick is at a position of the contig
    where the finder's window (restarted after the previous loop pick, `WindowAt`) is full, its
    canonical value is the picked k-mer, and that k-mer passed the candidate test.
    Consequently (splitters being singletons, C10 splits exactly at these positions) every
    segment other than the first and the last two spans ≥ `segment_size + k` symbols. -/
theorem spacing (isCand : UInt64 → Bool) (k seg : Nat) (c : List UInt64) :
    ∃ loopPicks endPicks : List Pick,
      findPicks isCand k seg c = loopPicks ++ endPicks
      ∧ (∀ p ∈ loopPicks, p.atEnd = false) ∧ (∀ e ∈ endPicks, e.atEnd = true)
      ∧ endPicks.length ≤ 1
      ∧ loopPicks.Pairwise (fun a b => a.pos + seg ≤ b.pos)
      ∧ (∀ e ∈ endPicks, ∀ p ∈ loopPicks, p.pos < e.pos)
      ∧ (∀ p ∈ loopPicks ++ endPicks,
          p.pos < c.length ∧ isCand p.kmer = true ∧ ∃ s, WindowAt k c s p.pos p.kmer) := by
  obtain ⟨lp, ep, h1, h2, h3, h4, h5⟩ := findLoop_shape isCand seg c (new k) seg [] 0
  refine ⟨lp, ep, h1, fun p hp => (h2 p hp).1, fun e he => (h5 e he).1, h4, h3,
    fun e he => (h5 e he).2.2, fun p hp => ?_⟩
  have hp' : p ∈ findLoop isCand seg (new k) seg [] 0 c := h1 ▸ hp
  exact ⟨findPicks_pos_lt isCand k seg c hp', findLoop_isCand isCand seg c _ _ _ _ p hp',
    (findPicks_chain isCand k seg c).windowAt p hp'⟩

example : findPicks (fun v => decide ((allKmers exRef 3).count v = 1)) 3 4
      [0, 1, 2, 3, 0, 0, 2, 1, 3, 3, 1, 0, 2, 2]
    = [⟨4, 12682136550675316736, false⟩, ⟨10, 9223372036854775808, false⟩,
       ⟨13, 2882303761517117440, true⟩] ∧ 4 + 4 ≤ 10 := by decide +kernel

/-! ### 6. Strand symmetry -/

/-- `enumerate_rc`: the multiset of canonical k-mers of a contig equals that of its reverse
    complement (bases complemented, `N`/IUPAC codes kept).

    Stated relative to C20: `h_window` is C20's `enumerate_spec` (`enumerate_kmers` returns the
    values `canonW w` of the all-base k-windows `w`, in order; `canonW` = C20's `canon`,
    `windowsSpec canonW` = C20's `specWindows`), `h_canon_rc` is C20's `canonical_rc`. -/
theorem enumerate_rc (k : Nat) (hk : 1 ≤ k) (canonW : List UInt64 → UInt64)
    (h_window : ∀ c, enumerateKmers c k = windowsSpec canonW k c)
    (h_canon_rc : ∀ w, BasesOnly w → w.length = k → canonW (rcWin w) = canonW w)
    (c : List UInt64) : (enumerateKmers (rcContig c) k).Perm (enumerateKmers c k) := by
  rw [h_window, h_window]
  exact windowsSpec_rc canonW k hk h_canon_rc c

example : enumerateKmers (rcContig [0, 1, 2, 3, 0, 0, 2, 4, 3, 3, 1]) 3
      = (enumerateKmers [0, 1, 2, 3, 0, 0, 2, 4, 3, 3, 1] 3).reverse
    ∧ rcContig [0, 1, 2, 3, 0, 0, 2, 4, 3, 3, 1] = [2, 0, 0, 4, 1, 3, 3, 0, 1, 2, 3] := by
  decide +kernel

/-- Reverse-complementing any subset of the contigs (`flips`) leaves the multiset of canonical
    k-mers of the reference, hence the singleton and duplicate sets, unchanged. -/
theorem kmers_rc_invariant (k : Nat) (hk : 1 ≤ k) (canonW : List UInt64 → UInt64)
    (h_window : ∀ c, enumerateKmers c k = windowsSpec canonW k c)
    (h_canon_rc : ∀ w, BasesOnly w → w.length = k → canonW (rcWin w) = canonW w)
    (cs : List (List UInt64)) (flips : List Bool) (s₁ s₂ : Nat) :
    (allKmers (rcSome flips cs) k).Perm (allKmers cs k)
    ∧ (determineSplitters (rcSome flips cs) k s₁).2 = (determineSplitters cs k s₂).2 := by
  have h := allKmers_rcSome k (enumerate_rc k hk canonW h_window h_canon_rc) cs flips
  exact ⟨h, singletons_perm_invariant _ _ k s₁ s₂ h⟩

example : rcSome [true, false, true] exRef ≠ exRef
    ∧ ∀ z, (allKmers (rcSome [true, false, true] exRef) 3).count z = (allKmers exRef 3).count z := by
  refine ⟨by decide, fun z => ?_⟩
  have : (allKmers (rcSome [true, false, true] exRef) 3).Perm (allKmers exRef 3) := by
    decide +kernel
  exact this.count_eq z

/-! ### 7. The same, with the hypotheses discharged by C20 (`1 ≤ k ≤ 32`) -/

/-- `enumerate_rc` with `h_window := enumerateKmers_eq_windowsSpec` (C20's `enumerate_spec`),
    `h_canon_rc := C20.canonical_rc`. -/
theorem enumerate_rc_closed (k : Nat) (h1 : 1 ≤ k) (h32 : k ≤ 32) (c : List UInt64) :
    (enumerateKmers (rcContig c) k).Perm (enumerateKmers c k) :=
  enumerate_rc k h1 canon (enumerateKmers_eq_windowsSpec k h1 h32)
    (fun w hw _ => Ragc.Props.C20.canonical_rc w hw) c

example : (enumerateKmers (rcContig [3, 3, 1, 4, 0, 2, 2, 1]) 3).Perm
    (enumerateKmers [3, 3, 1, 4, 0, 2, 2, 1] 3) := enumerate_rc_closed 3 (by decide) (by decide) _

/-- Strand symmetry of the singleton and duplicate sets, unconditionally for `1 ≤ k ≤ 32`:
    reverse-complementing any subset of the contigs changes neither (nor does the segment size). -/
theorem strand_invariant (k : Nat) (h1 : 1 ≤ k) (h32 : k ≤ 32) (cs : List (List UInt64))
    (flips : List Bool) (s₁ s₂ : Nat) :
    (determineSplitters (rcSome flips cs) k s₁).2 = (determineSplitters cs k s₂).2 :=
  singletons_perm_invariant _ _ k s₁ s₂
    (allKmers_rcSome k (enumerate_rc_closed k h1 h32) cs flips)

example : (determineSplitters (rcSome [true, false, true] exRef) 3 4).2 = (determineSplitters exRef 3 7).2
    ∧ rcSome [true, false, true] exRef ≠ exRef :=
  ⟨strand_invariant 3 (by decide) (by decide) exRef _ 4 7, by decide +kernel⟩

/-- Every pick of the second pass sits at a position `p.pos` of the contig such that the `k`
    symbols ending there are bases, the picked value is their canonical packing (C20's `canon`),
    and it passed the candidate test. -/
theorem pick_is_canonical_window (isCand : UInt64 → Bool) (k seg : Nat) (h1 : 1 ≤ k)
    (h32 : k ≤ 32) (c : List UInt64) (p : Pick) (hp : p ∈ findPicks isCand k seg c) :
    p.pos < c.length ∧ k ≤ p.pos + 1
      ∧ Valid (lastK k (c.take (p.pos + 1)))
      ∧ p.kmer = canon (lastK k (c.take (p.pos + 1)))
      ∧ isCand p.kmer = true := by
  obtain ⟨hlt, hk, hv, he⟩ := findPicks_ends isCand seg h1 h32 hp
  exact ⟨hlt, hk, hv, he, findLoop_isCand isCand seg c _ _ _ _ p hp⟩

example : (⟨10, 9223372036854775808, false⟩ : Pick)
      ∈ findPicks (fun v => decide ((allKmers exRef 3).count v = 1)) 3 4
        [0, 1, 2, 3, 0, 0, 2, 1, 3, 3, 1, 0, 2, 2]
    ∧ canon (lastK 3 (([0, 1, 2, 3, 0, 0, 2, 1, 3, 3, 1, 0, 2, 2] : List UInt64).take 11))
        = 9223372036854775808 := by decide +kernel

/-! ### 8. One function, three entry points: which records the first-sample variant uses -/

/-- The first-sample variant computes `determineSplitters` on the leading run of records that
    carry the first record's sample name: whatever follows the first record of another sample
    (including later records that carry the first sample's name again) has no influence. -/
theorem first_sample_ignores_rest (h0 : List Nat) (c0 : List UInt64)
    (run tail : List (List Nat × List UInt64)) (r' : List Nat × List UInt64) (k seg : Nat)
    (hrun : ∀ r ∈ run, sampleOfHeader r.1 = sampleOfHeader h0)
    (hdiff : sampleOfHeader r'.1 ≠ sampleOfHeader h0) :
    determineSplittersFirstSample ((h0, c0) :: (run ++ r' :: tail)) k seg
        = determineSplitters (c0 :: run.map Prod.snd) k seg
    ∧ determineSplittersFirstSample ((h0, c0) :: run) k seg
        = determineSplitters (c0 :: run.map Prod.snd) k seg := by
  let p : List Nat × List UInt64 → Bool := fun r => sampleOfHeader r.1 == sampleOfHeader h0
  have hall : ∀ r ∈ run, p r = true := fun r hr => beq_iff_eq.mpr (hrun r hr)
  -- reading stops at the end of `run`: there the file ends, or the sample name changes
  have key : ∀ T, T.takeWhile p = [] → determineSplittersFirstSample ((h0, c0) :: (run ++ T)) k seg
      = determineSplitters (c0 :: run.map Prod.snd) k seg := fun T hT => by
    show determineSplitters (c0 :: ((run ++ T).takeWhile p).map Prod.snd) k seg = _
    rw [List.takeWhile_append_of_pos hall, hT, List.append_nil]
  refine ⟨key _ (List.takeWhile_cons_of_neg fun h => hdiff (beq_iff_eq.mp h)), ?_⟩
  have := key [] rfl
  rwa [List.append_nil] at this

-- headers `r#1#a x#2` ↦ sample `r#1`; `ctg` ↦ `unknown`; records r#1#a, r#1#b, r#2#a, r#1#c
example : sampleOfHeader [114, 35, 49, 35, 97, 32, 120, 35, 50] = [114, 35, 49]
    ∧ sampleOfHeader [99, 116, 103] = [117, 110, 107, 110, 111, 119, 110]
    ∧ firstSampleRun [([114, 35, 49, 35, 97], [0, 1]), ([114, 35, 49, 35, 98], [2]),
        ([114, 35, 50, 35, 97], [3, 3]), ([114, 35, 49, 35, 99], [1, 1])] = [[0, 1], [2]] := by
  decide +kernel

/-- The streaming variants skip records whose sequence is empty (`if !sequence.is_empty()`), the
    in-memory variant does not: it makes no difference. -/
theorem empty_contigs_irrelevant (cs : List (List UInt64)) (k seg : Nat) :
    determineSplitters (cs.filter (fun c => !c.isEmpty)) k seg = determineSplitters cs k seg := by
  have h1 : allKmers (cs.filter (fun c => !c.isEmpty)) k = allKmers cs k :=
    flatMap_filter_nonempty (fun c => enumerateKmers c k) (enumerateKmers_nil k) cs
  unfold determineSplitters
  rw [h1]
  dsimp only
  rw [flatMap_filter_nonempty _ rfl cs]

example : ([[0, 1], [], [2]] : List (List UInt64)).filter (fun c => !c.isEmpty) = [[0, 1], [2]] := by
  decide +kernel

/-! ### 9. Segmenting the reference with its own splitters -/

/-- The main loop of `split_at_splitters_with_size` (split at *every* full window whose canonical
    value is in the splitter set, then `kmer.reset()`; no distance test, no end rule) is the loop
    of the second pass with `segment_size = 0` and `isCand := splitters.contains`, restricted to
    its loop picks. Run on a contig `c` of the reference with the reference's own splitter set it
    splits exactly at the positions picked by the second pass on `c` (loop picks and end pick):
    a splitter is a singleton of the whole reference, so it occurs nowhere else.
    Consequently all gaps between consecutive split positions except the last one are
    `≥ segment_size`, i.e. (segment `i ≥ 1` spanning `[pᵢ + 1 - k, pᵢ₊₁]`) every segment other than
    the first and the last two has `≥ segment_size + k` symbols. -/
theorem self_segmentation (cs : List (List UInt64)) (k seg : Nat) (h1 : 1 ≤ k) (h32 : k ≤ 32)
    (c : List UInt64) (hc : c ∈ cs) :
    ((findPicks (fun v => decide (v ∈ (determineSplitters cs k seg).1)) k 0 c).filter
        (fun p => !p.atEnd)).map Pick.pos
      = (findPicks (fun v => decide ((allKmers cs k).count v = 1)) k seg c).map Pick.pos
    ∧ (((findPicks (fun v => decide (v ∈ (determineSplitters cs k seg).1)) k 0 c).filter
        (fun p => !p.atEnd)).map Pick.pos).dropLast.Pairwise (fun a b => a + seg ≤ b) := by
  have both : ∀ {A B : List Nat}, A = B → B.dropLast.Pairwise (fun a b => a + seg ≤ b) →
      A = B ∧ A.dropLast.Pairwise (fun a b => a + seg ≤ b) := fun h hp => ⟨h, h ▸ hp⟩
  refine both ?_ ?_
  · refine findLoop_zero_eq_chain _ k h1 c c 0 0 (new k) 0 [] _ rfl ⟨Nat.le_refl _, rfl⟩
      (findPicks_chain _ k seg c) (fun p hp => ?_) (fun q v s' _ hq hw hsv => ?_)
    · -- a pick of the second pass is a splitter of the reference
      exact ⟨Nat.zero_le _, findPicks_pos_lt _ k seg c hp,
        decide_eq_true ((mem_splitters_iff cs k seg _).mpr ⟨c, hc, p, hp, rfl⟩)⟩
    · -- a window whose value is a splitter is the one window of that singleton k-mer
      obtain ⟨c', hc', p', hp', rfl⟩ := (mem_splitters_iff cs k seg v).mp (of_decide_eq_true hsv)
      obtain ⟨rfl, hq'⟩ := singleton_window_unique h1 h32
        (of_decide_eq_true (findLoop_isCand _ seg c' _ _ _ _ p' hp')) hc hc'
        (hw.ends h1 h32 hq) (findPicks_ends _ seg h1 h32 hp')
      exact ⟨p', hp', hq'⟩
  · obtain ⟨lp, ep, h, _, _, hlen, hpw, _, _⟩ :=
      spacing (fun v => decide ((allKmers cs k).count v = 1)) k seg c
    rw [h, List.map_append]
    exact (List.pairwise_map.mpr hpw).sublist
      (dropLast_append_sublist _ (List.length_map (f := Pick.pos) ▸ hlen))

-- contig 0 of `exRef`: the segmenter run with the reference's splitter set splits at 4, 10, 13
example : ((findPicks (fun v => decide (v ∈ ([12682136550675316736, 9223372036854775808,
        2882303761517117440, 11529215046068469760, 6917529027641081856] : List UInt64))) 3 0
        [0, 1, 2, 3, 0, 0, 2, 1, 3, 3, 1, 0, 2, 2]).filter (fun p => !p.atEnd)).map Pick.pos
      = [4, 10, 13]
    ∧ ([0, 1, 2, 3, 0, 0, 2, 1, 3, 3, 1, 0, 2, 2] : List UInt64) ∈ exRef := by decide +kernel

/-- The spacing claim of C11 on the C10 model of `split_at_splitters_with_size`: segmenting a
    contig of the reference with the reference's own splitter set gives segments of which all but
    the first and the last two have at least `segment_size + k` (in particular `≥ segment_size`)
    symbols. -/
theorem self_segmentation_segments (cs : List (List UInt64)) (k seg : Nat) (h1 : 1 ≤ k)
    (h32 : k ≤ 32) (contig : List UInt8) (hc : contig.map UInt8.toUInt64 ∈ cs)
    (segs : List Ragc.Segment.Segment)
    (hs : Ragc.Segment.splitAtSplittersWithSize contig
        (fun v => decide (v ∈ (determineSplitters cs k seg).1)) k seg = some segs) :
    ∀ x ∈ ((segs.drop 1).dropLast).dropLast, seg + k ≤ x.data.length :=
  split_interior_ge _ k seg h1 h32 contig segs hs
    (self_segmentation cs k seg h1 h32 _ hc).2

-- contig 0 of `exRef` (k = 3, segment size 4) is cut by the reference's own splitters (the list
-- proved above to be `(determineSplitters exRef 3 4).1`) into 4 segments of 5, 9, 6, 3 symbols;
-- the interior one has 9 ≥ 4 + 3.
example :
    (Ragc.Segment.splitAtSplittersWithSize [0, 1, 2, 3, 0, 0, 2, 1, 3, 3, 1, 0, 2, 2]
        (fun v => decide (v ∈ ([12682136550675316736, 9223372036854775808, 2882303761517117440,
          11529215046068469760, 6917529027641081856] : List UInt64))) 3 4).map
      (fun segs => segs.map (fun s => s.data.length)) = some [5, 9, 6, 3]
    ∧ ([0, 1, 2, 3, 0, 0, 2, 1, 3, 3, 1, 0, 2, 2] : List UInt8).map UInt8.toUInt64 ∈ exRef := by
  decide +kernel

end Ragc.Props.C11
