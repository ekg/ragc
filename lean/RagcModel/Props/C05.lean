import RagcModel.Lemmas.Pipeline
import RagcModel.Lemmas.QueueProduct
/-!
C05 — the compression pipeline always terminates.

Model: `Model/Pipeline.lean` — the producer program, the bounded priority queue at the granularity
of completed calls, `N` workers running the loop of `worker_thread` with its four barrier waits.
`Step fx s s'` is one guarded action (`fx = false`: the push guard before the fix of defect D5,
`cur + size ≤ cap`; `fx = true`: the guard of the code as it stands since c0ac607, which also admits
an item into an empty queue). With every item `≤ cap` the two guards enable the same pushes.

Vocabulary (defined in `Lemmas/Pipeline.lean`):
* `Φ s` — potential: instruction `push x` weighs `qpot x + 1`, `waitEmpty`/`close` 1; a queued contig
  2, a queued token 10; a worker: `idle` 1, `working` 2, `bar j` `12 - 2j`, `ph j` `11 - 2j`, `exited` 0;
* `TokRuns N 0 body` — tokens come in runs of exactly `N`: scanning `body`, a contig push or a
  `waitEmpty` occurs only between complete runs of `N` token pushes, and `body` ends between runs;
* `WellFormedShape N prog` — `1 ≤ N`, `prog = body ++ [close]`, no `close` in `body`, `TokRuns N 0 body`;
  `WellFormedProgram N cap prog` — additionally every pushed item has `size ≤ cap`;
* `ModeA ws` — every worker is `idle`, `working _`, `ph 4`, `bar 1` or `exited` (collecting a round);
  `ModeB ws` — for one `j ∈ {1,2,3}` every worker is `ph j` or `bar (j+1)` (inside a round, lockstep).

Outside the model: OS scheduling fairness, worker panics, `drain`'s polling loop (modelled as
"enabled when the queue is empty"). The condvar protocol inside the queue is no longer outside: the
last section replaces the atomic queue by the critical-section model of C06 (`Model/Queue.lean`) and
shows that nothing changes (`Lemmas/QueueProduct.lean` has the product system; spurious wake-ups are
allowed, what is assumed of `Condvar` is what `Model/Queue.lean` states).
-/
namespace Ragc.Props.C05
open Ragc.Pipeline

/-! ### Every transition consumes potential: all executions are finite -/

/-- Every transition, from ANY state (reachable or not), for either push guard, strictly decreases
the potential. -/
theorem measure_decreases (fx : Bool) (s s' : State) (h : Step fx s s') : Φ s' < Φ s := by
  obtain ⟨e, he⟩ := h
  exact step?_decreases he

/-- Hence an execution from `s` has at most `Φ s` steps: no livelock for any thread count, capacity,
program or interleaving. -/
theorem executions_bounded (fx : Bool) (s : State) (trace : List State) (h : IsExec fx s trace) :
    trace.length ≤ Φ s := by
  induction trace generalizing s with
  | nil => exact Nat.zero_le _
  | cons t rest ih =>
    obtain ⟨⟨e, he⟩, hrest⟩ := h
    exact Nat.succ_le_of_lt (Nat.lt_of_le_of_lt (ih t hrest) (step?_decreases he))

/-- a 2-worker, 1-contig program: at most 37 steps -/
def demoProg : List Instr :=
  [.push (.contig 0 2147483647 5 5 0), .push (.token 0 1000000 1), .push (.token 0 1000000 1), .close]

example : Φ (init demoProg 8 2) = 3 + 11 + 11 + 1 + 2 := by decide
example : WellFormedProgram 2 8 demoProg := by
  refine ⟨⟨by decide, [.push (.contig 0 2147483647 5 5 0), .push (.token 0 1000000 1), .push (.token 0 1000000 1)], rfl, by decide, ?_⟩, by decide⟩
  exact .contig rfl (.token rfl (by decide) (.tokenLast rfl rfl .nil))

/-! ### No deadlock -/

/-- A reachable state that is not final has an enabled transition, when every item fits the
capacity — for every `N ≥ 1`, every capacity and every interleaving. -/
theorem no_deadlock (prog : List Instr) (N cap : Nat) (s : State)
    (hwf : WellFormedProgram N cap prog) (hr : Reachable false prog cap N s) (hnf : ¬ Final s) :
    ∃ s', Step false s s' :=
  reachable_progress hwf.1 hr (fun _ => hwf.2) hnf

/-- With the repaired push guard (`cur + size ≤ cap ∨ queue empty`, the code as it stands) the same
holds WITHOUT any hypothesis on item sizes. -/
theorem no_deadlock_fixed (prog : List Instr) (N cap : Nat) (s : State)
    (hwf : WellFormedShape N prog) (hr : Reachable true prog cap N s) (hnf : ¬ Final s) :
    ∃ s', Step true s s' :=
  reachable_progress hwf hr nofun hnf

/-- Together: every maximal execution from the initial state is finite and ends in a final state
(`finalize` returns). Stated for an execution that cannot be extended. -/
theorem terminates_in_final (prog : List Instr) (N cap : Nat) (hwf : WellFormedProgram N cap prog)
    (s : State) (hr : Reachable false prog cap N s) (hstuck : ¬ ∃ s', Step false s s') : Final s :=
  Classical.byContradiction (fun hnf => hstuck (no_deadlock prog N cap s hwf hr hnf))

/-- The programs the CLI generates (`programOf`, both modes, every input with
`#samples + #contigs < 2^31 - 1 - 1 000 000`, every `N ≥ 1`, every pack size) are well formed. -/
theorem programOf_wellFormed (single : Bool) (N pack : Nat) (samples : List (List Nat))
    (hN : 1 ≤ N) (hw : weight samples < 2146483647) : WellFormedShape N (programOf single N pack samples) :=
  (programOf_spec single hN samples hw).1

/-- So a `create` run whose queue capacity admits every contig never gets stuck and takes at most
`Φ (init …)` steps, whatever the interleaving. -/
theorem create_terminates (single : Bool) (N pack cap : Nat) (samples : List (List Nat))
    (hN : 1 ≤ N) (hw : weight samples < 2146483647)
    (hcap : ∀ x ∈ items (programOf single N pack samples), x.size ≤ cap) :
    (∀ s, Reachable false (programOf single N pack samples) cap N s → ¬ Final s → ∃ s', Step false s s') ∧
    (∀ trace, IsExec false (init (programOf single N pack samples) cap N) trace →
        trace.length ≤ Φ (init (programOf single N pack samples) cap N)) :=
  ⟨fun s hr hnf => no_deadlock _ N cap s ⟨programOf_wellFormed single N pack samples hN hw, hcap⟩ hr hnf,
   fun trace h => executions_bounded false _ trace h⟩

example : Φ (init (programOf true 2 2 [[5, 3, 0, 7]]) 8 2) = 56 := by decide

/-! ### Final states are complete -/

/-- In a final state every contig of the program has been appended to the raw buffers exactly once
(it is in a closed batch or, if it was pulled after the last round, still in `buffered` — C04's
`batches_schedule_independent` shows the latter is empty for the programs the CLI generates), and
every token round closed exactly one batch (`N` tokens each). -/
theorem final_complete (prog : List Instr) (N cap : Nat) (s : State)
    (hwf : WellFormedProgram N cap prog) (hr : Reachable false prog cap N s) (hf : Final s) :
    (s.batches.flatten ++ s.buffered).Perm (contigSeqs (items prog)) ∧
      N * s.batches.length = tokCount (items prog) :=
  reachable_final_complete hwf.1 hr (fun _ => hwf.2) hf

/-- the same for the repaired guard -/
theorem final_complete_fixed (prog : List Instr) (N cap : Nat) (s : State)
    (hwf : WellFormedShape N prog) (hr : Reachable true prog cap N s) (hf : Final s) :
    (s.batches.flatten ++ s.buffered).Perm (contigSeqs (items prog)) ∧
      N * s.batches.length = tokCount (items prog) :=
  reachable_final_complete hwf hr nofun hf

/-! ### Round accounting -/

/-- In every reachable state: there are `N` workers; either nobody is beyond barrier 1 (`ModeA`) or
all `N` workers are inside the same round at the same barrier index up to the release lag (`ModeB`);
a worker that has exited did so after `close` with the queue empty; and every closed batch consumed
exactly `N` tokens — one per worker, since a worker holding a token (`bar 1`) cannot pull again:
`N · #batches + #workers waiting at barrier 1 + #tokens queued + #tokens still to push = #tokens`. -/
theorem round_accounting (prog : List Instr) (N cap : Nat) (s : State)
    (hwf : WellFormedProgram N cap prog) (hr : Reachable false prog cap N s) :
    s.workers.length = N ∧ (ModeA s.workers ∨ ModeB s.workers) ∧
    (WState.exited ∈ s.workers → s.closed = true ∧ s.queue = [] ∧ s.prog = []) ∧
    N * s.batches.length + s.workers.count (.bar 1) + tokCount s.queue + tokCount (items s.prog)
      = tokCount (items prog) := by
  have hi := inv5_reachable hwf.1 (fun _ => hwf.2) hr
  refine ⟨hi.len, hi.shape, fun h => ⟨(hi.exitedClosed h).1, (hi.exitedClosed h).2, hi.closedProg (hi.exitedClosed h).1⟩, ?_⟩
  have := hi.tokAcc
  rw [tally, pend, sumBy_append, sumBy_bar1W, sumBy_tokW, sumBy_tokW, sumBy_tokW, ← Nat.add_assoc, ← Nat.add_assoc] at this
  exact this

/-! ### Defect D5 (fixed in c0ac607): an item larger than the capacity blocked the pipeline -/

/-- capacity 8; a 3-byte contig, then a 9-byte contig, two workers -/
def oversizeProg : List Instr :=
  [.push (.contig 0 2147483647 3 3 0), .push (.contig 1 2147483647 9 9 0),
   .push (.token 0 1000000 1), .push (.token 0 1000000 1), .close]

/-- the state after the first contig went through: the producer is blocked in `push` of the 9-byte
contig, the queue is empty, both workers wait in `pull` -/
def oversizeStuck : State :=
  { prog := oversizeProg.tail, queue := [], closed := false, cap := 8,
    workers := [.idle, .idle], buffered := [0], batches := [] }

/-- With the push guard before the fix, the state "producer blocked on push, queue empty, all
workers idle" is reachable and has no enabled transition (and is not final): the pipeline hangs.
With the repaired guard the push is enabled there. -/
theorem oversize_blocks :
    Reachable false oversizeProg 8 2 oversizeStuck ∧ ¬ Final oversizeStuck ∧
    (¬ ∃ s', Step false oversizeStuck s') ∧ (∃ s', Step true oversizeStuck s') := by
  refine ⟨?_, by decide, ?_, ?_⟩
  · have h1 : Reachable false oversizeProg 8 2
        { oversizeStuck with queue := [.contig 0 2147483647 3 3 0], buffered := [] } :=
      .step .init ⟨.prod, by decide⟩
    have h2 : Reachable false oversizeProg 8 2
        { oversizeStuck with workers := [.working 0, .idle], buffered := [] } :=
      .step h1 ⟨.pull 0 (.contig 0 2147483647 3 3 0), by decide⟩
    exact .step h2 ⟨.buffer 0, by decide⟩
  · rintro ⟨s', e, h⟩
    have hs := stepI_of_step? h
    cases hs with
    | push hp hg => cases hp; revert hg; decide
    | waitEmpty hp _ => cases hp
    | close hp => cases hp
    | pull _ hm => exact nomatch hm.1
    | exit _ hc _ => cases hc
    | buffer hw => have := List.mem_of_getElem? hw; simp [oversizeStuck] at this
    | release1 _ hall => have := hall .idle (by simp [oversizeStuck]); simp at this
    | release _ _ _ hall => have := hall .idle (by simp [oversizeStuck]); simp at this
    | advance hw _ _ => have := List.mem_of_getElem? hw; simp [oversizeStuck] at this
    | advance4 hw => have := List.mem_of_getElem? hw; simp [oversizeStuck] at this
  · exact ⟨{ oversizeStuck with prog := oversizeProg.tail.tail, queue := [.contig 1 2147483647 9 9 0] }, .prod, by decide⟩

/-! ### The queue at condvar granularity (the model of C06) in place of the atomic queue

`Product.PState` = a pipeline state `p` + a state `q` of `Model/Queue.lean` with `N + 1` threads
(thread 0 the producer, thread `w + 1` worker `w`). Transitions `Product.pstep`: `stut e` — a Queue
event that completes no call (the producer enters `push` with the next item of its program, a worker
at the top of its loop enters `pull`, go to sleep, resume after a notify, spurious wake-up);
`push w` / `pull t x w` / `eos t` / `close` — the linearisation event of the Queue model
(`pushAdmit 0 w`, `pullTake (t+1) (enc x) w`, `pullEos (t+1)`, `close 0`) together with the
completed-call step of the pipeline; `waitEmpty`; `work e` (buffer / release / advance).
`enc` translates `ContigTask`s into items of the Queue model (`Product.EncOK`: same size, and on the
items of the program `taskLt a b ↔ key (enc a) < key (enc b)`). -/

/-- Such a translation exists for every program: the key of `x` is the number of program items
strictly below `x` (`taskLt` is a strict weak order). -/
theorem item_encoding_exists (prog : List Instr) : Product.EncOK (Product.rankEnc prog) prog :=
  Product.rankEnc_ok prog

example : Product.rankEnc Product.Demo.prog Product.Demo.ctg = ⟨0, 2, 5⟩ ∧
    Product.rankEnc Product.Demo.prog Product.Demo.tok = ⟨0, 0, 0⟩ := by decide

/-- Safety: whatever the threads do inside the queue, the pipeline component of every reachable
product state is a reachable state of the atomic model (so `round_accounting`, C04's
schedule-independence … apply to it), and its ghost queue is the queue of the Queue model: same
items up to order, same `closed`, same byte count. -/
theorem product_refines_pipeline {enc : Product.PItem → Product.QItem} {prog : List Instr}
    {cap N : Nat} {s : Product.PState} (henc : Product.EncOK enc prog)
    (hr : Product.PReach enc prog cap N s) :
    Reachable true prog cap N s.p ∧ (s.p.queue.map enc).Perm s.q.items ∧
      s.p.closed = s.q.closed ∧ s.p.cur = s.q.cur ∧ s.q.cur = Queue.sizeSum s.q.items :=
  let hi := Product.pinv_reach hr
  ⟨hi.reach, hi.perm, hi.closed_eq, Product.pinv_cur henc hi, hi.a.cur_eq⟩

example : Reachable true Product.Demo.prog 8 2 Product.Demo.notified.p ∧
    (Product.Demo.notified.p.queue.map Product.Demo.enc).Perm Product.Demo.notified.q.items :=
  let h := product_refines_pipeline (item_encoding_exists _)
    (Product.prun_reach _ .init Product.Demo.run_notified)
  ⟨h.1, h.2.1⟩

/-- The product hides no behaviour of the queue: in a reachable state, every event that the Queue
model enables for a call in progress (anything but the start of a new call — those are fixed by the
threads' programs) is a transition of the product with exactly that effect on the queue. In
particular a `pushAdmit` / `pullTake` / `pullEos` that the condvar-level queue performs is always a
legal completed call of the atomic model. -/
theorem product_hides_nothing {enc : Product.PItem → Product.QItem} {prog : List Instr}
    {cap N : Nat} {s : Product.PState} (henc : Product.EncOK enc prog) (hwf : WellFormedShape N prog)
    (hr : Product.PReach enc prog cap N s) {e : Queue.Event} {q' : Queue.State}
    (hs : Queue.step cap s.q e = some q') (hns : e.isStart = false) :
    ∃ pe p', Product.pstep enc s pe = some ⟨p', q'⟩ :=
  Product.product_faithful henc hwf (Product.pinv_reach hr) hs hns

/-- in `Demo.notified` the Queue model lets the notified worker resume; the product has that step -/
example : ∃ pe p', Product.pstep Product.Demo.enc Product.Demo.notified pe =
    some ⟨p', Product.Demo.notified.q.setT 1 .pulling⟩ :=
  product_hides_nothing (N := 2) (item_encoding_exists _)
    ⟨by decide, [.push Product.Demo.ctg, .push Product.Demo.tok, .push Product.Demo.tok], rfl, by decide,
      .contig rfl (.token rfl (by decide) (.tokenLast rfl rfl .nil))⟩
    (Product.prun_reach _ .init Product.Demo.run_notified) (e := .pullWake 1) (by decide) rfl

/-- No completed call is withheld by the condvar protocol: whenever the atomic model can take a
step from the pipeline component, the product has an enabled transition that is not a spurious
wake-up — of the same thread, or, when that thread is a consumer asleep in `not_empty.wait`, of the
consumer the wake-up went to (`Props.C06.blocked_call_has_cause`). The producer is never asleep while
its item fits (`no_lost_wakeup_not_full_single`); no hypothesis on the program. -/
theorem completed_call_step_matched {enc : Product.PItem → Product.QItem} {prog : List Instr}
    {cap N : Nat} {s : Product.PState} (henc : Product.EncOK enc prog)
    (hr : Product.PReach enc prog cap N s) {p' : State} (hs : Step true s.p p') :
    ∃ e s', Product.pstep enc s e = some s' ∧ e.isSpur = false :=
  Product.abstract_step_matched henc (Product.pinv_reach hr) hs

/-- in `Demo.asleep` (worker 0 asleep, queue empty) the atomic model can push; so can the product -/
example : ∃ e s', Product.pstep Product.Demo.enc Product.Demo.asleep e = some s' ∧ e.isSpur = false :=
  completed_call_step_matched (item_encoding_exists _)
    (Product.prun_reach _ .init Product.Demo.run_asleep) ⟨.prod, rfl⟩

/-- Termination over condvars. For a well-formed program, with the queue being the Queue model of
C06 (any `notify_one` choices, spurious wake-ups allowed): a reachable product state is stuck —
nothing but spurious wake-ups is enabled: no thread can take a step inside its call, start the next
call of its program, or work outside the queue — **iff** its pipeline component is final (producer
done, queue empty, every worker exited). So the pipeline cannot hang inside the queue; combines
`no_deadlock_fixed` with `completed_call_step_matched`. No hypothesis on item sizes. -/
theorem pipeline_termination_over_condvars (prog : List Instr) (N cap : Nat)
    (hwf : WellFormedShape N prog) (enc : Product.PItem → Product.QItem)
    (henc : Product.EncOK enc prog) (s : Product.PState) (hr : Product.PReach enc prog cap N s) :
    Product.Stuck enc s ↔ Final s.p :=
  ⟨Product.stuck_final henc (fun p hp hnf => no_deadlock_fixed prog N cap p hwf hp hnf)
      (Product.pinv_reach hr),
   Product.final_stuck (Product.pinv_reach hr)⟩

/-- the 32-step run `Demo.evs` (a worker sleeps, is notified, the contig and the token round go
through, both workers see end-of-stream) ends in a final, hence stuck, state -/
example : Product.Stuck Product.Demo.enc Product.Demo.final :=
  (pipeline_termination_over_condvars Product.Demo.prog 2 8
    ⟨by decide, [.push Product.Demo.ctg, .push Product.Demo.tok, .push Product.Demo.tok], rfl, by decide,
      .contig rfl (.token rfl (by decide) (.tokenLast rfl rfl .nil))⟩
    _ (item_encoding_exists _) _ (Product.prun_reach _ .init Product.Demo.run_final)).mpr (by decide)
example : ¬ Final Product.Demo.notified.p := by decide

/-- And it gets there: every transition of the product other than a spurious wake-up strictly
decreases `Product.M = Φ p · (5 (N+1) + 1) + Σ thread weights` (outside the queue 5, notified 4,
evaluating the loop condition 3, asleep 2), from ANY state. Hence an execution without spurious
wake-ups has at most `M` transitions, and by the previous theorem it can only stop in a final state.
(With spurious wake-ups a sleeper can wake and go back to sleep for ever: that is scheduling
fairness, outside the model.) -/
theorem condvar_executions_bounded (enc : Product.PItem → Product.QItem) (s s' : Product.PState)
    (es : List Product.PEv) (h : Product.prun enc s es = some s')
    (hsp : ∀ e ∈ es, e.isSpur = false) : es.length + Product.M s' ≤ Product.M s :=
  Product.prun_bounded es h hsp

example : Product.M (Product.init Product.Demo.prog 8 2) = 28 * 16 + 15 := by decide
example : 32 + Product.M Product.Demo.final ≤ Product.M (Product.init Product.Demo.prog 8 2) :=
  condvar_executions_bounded _ _ _ Product.Demo.evs Product.Demo.run_final (by decide)

end Ragc.Props.C05
