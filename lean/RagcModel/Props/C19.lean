import RagcModel.Model.Fasta
import RagcModel.Lemmas.Fasta
/-!
# C19 — extraction is invariant under how the input is presented

Model: `RagcModel/Model/Fasta.lean`. What `create` receives from its input files is the stream
`fileStream` of `(sample, contig name, codes)`; everything after that point (C01, C04) is a
function of this stream and the parameters. The theorems say that the stream does not depend on
the presentation: line width, LF/CRLF, case, final newline (`parse_render`, `stream_render`),
`.gz` versus plain file name (`sample_name_gz`; the decompressed bytes are the text — gzip itself
is trusted), one PanSN file versus one file per sample (`pansn_vs_files`).
-/
namespace Ragc.Props.C19
open Ragc.Fasta

/-- Every presentation of the same records parses to the same `(id, codes)` list, for EVERY
style: a line width `≥ 1`, LF or CRLF and a case pattern per record, with or without final
newline. The records: header bytes arbitrary except `\n` (a `\r`, tabs, spaces, `>`, `#` may occur
anywhere), such that the id — the header without leading `>`s and without the ASCII white space
`\t \n \v \f \r ' '` at both ends — is not empty; at least one base, all bases ASCII letters
(IUPAC or not). The result `canon`: that id, and the table code of each upper-cased letter. -/
theorem parse_render (fin : Bool) (recs : List (Rec × RecStyle)) (h : ValidPres recs) :
    parseFile (render fin recs) = some (canon (recs.map (·.1))) :=
  parseFile_render fin recs h

/-- `>c1 x` / `AcGtx` in width 2, CRLF, mixed case; `>c2` / `N` in width 1, LF; no final newline. -/
def exPres : List (Rec × RecStyle) :=
  [(⟨[99, 49, 32, 120], [65, 99, 71, 116, 120]⟩, ⟨2, true, [true, false]⟩),
   (⟨[99, 50], [78]⟩, ⟨1, false, []⟩)]

example : ValidPres exPres ∧
    canon (exPres.map (·.1)) = [([99, 49, 32, 120], [0, 1, 2, 3, 30]), ([99, 50], [4])] := by decide +kernel

/-- Hence two presentations of the same records are indistinguishable for `create`. -/
theorem presentations_agree (fin fin' : Bool) (p p' : List (Rec × RecStyle))
    (h : ValidPres p) (h' : ValidPres p') (hsame : p.map (·.1) = p'.map (·.1)) :
    parseFile (render fin p) = parseFile (render fin' p') := by
  rw [parseFile_render fin p h, parseFile_render fin' p' h', hsame]

/-- What happens to white space and `>` around the header: the id of a header is the header
itself when it does not start with `>` or white space and does not end with white space;
otherwise those bytes are removed (so `"c1 "`, `" c1"`, `"c1\r"` and `">c1"` all name `c1`). -/
theorem header_id_clean (h : Bytes) (x y : Nat) (hx : x ≠ 62) (hxw : isWs x = false)
    (hyw : isWs y = false) : headerId (62 :: x :: h ++ [y]) = x :: h ++ [y] := by
  have h2 : trimEnd (x :: h ++ [y]) = x :: h ++ [y] := by
    rw [trimEnd, show (x :: h ++ [y]).reverse = y :: (x :: h).reverse by simp,
      List.dropWhile_cons_of_neg (by rw [hyw]; exact Bool.false_ne_true),
      List.reverse_cons, List.reverse_reverse]
  rw [headerId, List.cons_append, List.cons_append, List.dropWhile_cons_of_pos (by decide),
    List.dropWhile_cons_of_neg (by simpa using hx), trim, ← List.cons_append, h2, List.cons_append,
    trimStart, List.dropWhile_cons_of_neg (by rw [hxw]; exact Bool.false_ne_true)]

example : headerId [62, 62, 32, 99, 49, 9, 13, 10] = [99, 49] := by decide +kernel

/-- The sample name of a `.gz` file is that of the plain file, for file names `stem.fa` and
`stem.fasta` (`stem` not empty); for `.fasta` the stem must not itself end in `.fa` (see the
witness below). `.fna` and other extensions are outside: there `x.fna` gives `x` and `x.fna.gz`
gives `x.fna`. -/
theorem sample_name_gz (p b : Bytes) (hb : b ≠ [])
    (h : fileName p = b ++ dotFa ∨
      (fileName p = b ++ dotFasta ∧ dotFa.reverse.isPrefixOf b.reverse = false)) :
    sampleNameOfPath (p ++ dotGz) = sampleNameOfPath p := by
  have hfn : fileName (p ++ dotGz) = fileName p ++ dotGz := fileName_append p dotGz (by decide)
  have h4 : 4 ≤ (fileName p).length := by
    have hb' : 1 ≤ b.length := List.length_pos_iff.mpr hb
    rcases h with h | ⟨h, _⟩
    · rw [h, List.length_append]; exact Nat.add_le_add hb' (by decide : 3 ≤ dotFa.length)
    · rw [h, List.length_append]; exact Nat.add_le_add hb' (by decide : 3 ≤ dotFasta.length)
  have hne : fileName p ≠ [] := fun e => by rw [e] at h4; cases h4
  rw [sampleNameOfPath_of_long h4,
    sampleNameOfPath_of_long (by rw [hfn, List.length_append]; exact Nat.le_add_right_of_le h4),
    hfn, sampleNameOfFile_gz hne, sampleNameOfFile]
  refine congrArg some ?_
  rcases h with h | ⟨h, hnfa⟩
  · have s2 : fileStem (b ++ dotFa) = b := fileStem_ext b [102, 97] hb (by decide)
    rw [h, s2, trimEndMatches_suffix dotFa b (by decide)]
  · have t1 : trimEndMatches dotFa (b ++ dotFasta) = b ++ dotFasta :=
      trimEndMatches_stop _ _ (by rw [List.reverse_append]; rfl)
    have s2 : fileStem (b ++ dotFasta) = b := fileStem_ext b [102, 97, 115, 116, 97] hb (by decide)
    rw [h, s2, t1, trimEndMatches_suffix dotFasta b (by decide), trimEndMatches_stop dotFa b hnfa]

/-- `/d/x.fa` and `/d/x.fa.gz` are both sample `x`; so are `x.fasta` and `x.fasta.gz`. -/
example : fileName [47, 100, 47, 120, 46, 102, 97] = [120] ++ dotFa := by decide +kernel

/-- The side condition is needed: `x.fa.fasta` is sample `x`, `x.fa.fasta.gz` is sample `x.fa`
(`trim_end_matches(".fa")` runs before `trim_end_matches(".fasta")`). -/
theorem sample_name_gz_witness :
    sampleNameOfFile ([120] ++ dotFa ++ dotFasta) = [120] ∧
    sampleNameOfFile ([120] ++ dotFa ++ dotFasta ++ dotGz) = [120] ++ dotFa := by
  decide +kernel

/-- The stream `create` receives from a file depends only on the records, not on the style. -/
theorem stream_render (fileSample : Bytes) (fin : Bool) (pres : List (Rec × RecStyle))
    (h : ValidPres pres) :
    fileStream fileSample (render fin pres) = some (streamOf fileSample (pres.map (·.1))) :=
  fileStream_render fileSample fin pres h

/-- One PanSN file versus one file per sample: when every header carries its sample (≥ 3
`#`-fields), the per-sample files — each presented in its own style, under any file name — and a
single file presenting the same records in the same order in any style give `create` the same
`(sample, contig name, codes)` stream (every read succeeds). -/
theorem pansn_vs_files (files : List (Bytes × Bool × List (Rec × RecStyle)))
    (single : Bytes) (fin : Bool) (all : List (Rec × RecStyle))
    (hfiles : ∀ f ∈ files, ValidPres f.2.2) (hall : ValidPres all)
    (hsame : all.map (·.1) = files.flatMap (fun f => f.2.2.map (·.1)))
    (hpansn : ∀ f ∈ files, ∀ p ∈ f.2.2, IsPansn p.1) :
    (∀ f ∈ files, fileStream f.1 (render f.2.1 f.2.2) = some (streamOf f.1 (f.2.2.map (·.1)))) ∧
    fileStream single (render fin all) =
      some (files.flatMap (fun f => streamOf f.1 (f.2.2.map (·.1)))) := by
  refine ⟨fun f hf => fileStream_render f.1 f.2.1 f.2.2 (hfiles f hf), ?_⟩
  rw [fileStream_render single fin all hall, hsame]
  clear hsame hall
  congr 1
  induction files with
  | nil => rfl
  | cons f fs ih =>
    simp only [List.flatMap_cons, streamOf_append]
    rw [ih (fun g hg => hfiles g (by simp [hg])) (fun g hg => hpansn g (by simp [hg]))]
    congr 1
    apply streamOf_pansn
    intro r hr
    simp only [List.mem_map] at hr
    obtain ⟨p, hp, rfl⟩ := hr
    exact hpansn f (by simp) p hp

/-- two samples `A#1`, `B#1`, one contig each -/
def exFiles : List (Bytes × Bool × List (Rec × RecStyle)) :=
  [([115, 48], true, [(⟨[65, 35, 49, 35, 99], [65, 67]⟩, ⟨60, false, []⟩)]),
   ([115, 49], false, [(⟨[66, 35, 49, 35, 99], [103, 116]⟩, ⟨1, true, [true, true]⟩)])]

def exAll : List (Rec × RecStyle) :=
  [(⟨[65, 35, 49, 35, 99], [65, 67]⟩, ⟨7, true, [true]⟩),
   (⟨[66, 35, 49, 35, 99], [103, 116]⟩, ⟨80, false, []⟩)]

set_option maxRecDepth 8192 in
example : (∀ f ∈ exFiles, ValidPres f.2.2) ∧ ValidPres exAll ∧
    exAll.map (·.1) = exFiles.flatMap (fun f => f.2.2.map (·.1)) ∧
    (∀ f ∈ exFiles, ∀ p ∈ f.2.2, IsPansn p.1) ∧
    streamOf [97] (exAll.map (·.1)) =
      [([65, 35, 49], [65, 35, 49, 35, 99], [0, 1]), ([66, 35, 49], [66, 35, 49, 35, 99], [2, 3])] := by
  decide +kernel

end Ragc.Props.C19
