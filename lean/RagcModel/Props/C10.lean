import RagcModel.Props.C20
import RagcModel.Lemmas.Segment
/-!
C10 — segmentation tiles each contig with exact k-base overlaps at splitters.

Model: `Model/Segment.lean` (`splitGeneric` = the loop of segment.rs over an arbitrary window
tracker; `splitAtSplittersWithSize` / `splitAtSplitters` = the two Rust functions, i.e. the
`Kmer` tracker with / without the window reset after a split).  Vocabulary (`Tiles`, `reassemble`,
`Tracker.Window`, `Tracker.enum`, `Linked`) is defined in `Lemmas/Segment.lean`.

Part 1 states every theorem for an arbitrary tracker `T`, start state `init`, splitter predicate
`isSplitter`, flag `ws` (`true` = `split_at_splitters_with_size`) and `k ≥ 1`.  The tiling needs
one assumption on the tracker, `T.Window k R` with `R init 0`: "a full window has received at
least `k` symbols since its last reset" (without it `(pos+1).saturating_sub(k)` would saturate and
the overlap would be shorter than `k`).  The k-mer chaining, totality and the single-segment
theorems need no assumption at all.  Part 2 instantiates everything for the Rust functions
(`1 ≤ k ≤ 32`), where `Tracker.Window` holds by `kmer_window` (a fact about the `cur` counter).
-/
namespace Ragc.Props.C10
open Ragc.Segment

/-! ## Part 1 — any window tracker -/

/-- The model never reaches an out-of-range slice (the Rust never panics), for any tracker. -/
theorem split_total (T : Tracker σ) (init : σ) (isSplitter : UInt64 → Bool) (ws : Bool) (k : Nat)
    (contig : List UInt8) (hk : 1 ≤ k) :
    ∃ segs, splitGeneric T init isSplitter ws k contig = some segs ∧ segs ≠ [] := by
  refine ⟨_, splitGeneric_eq T init isSplitter ws k contig hk, ?_⟩
  split
  · exact List.cons_ne_nil _ _
  · exact build_ne_nil (Nat.lt_of_lt_of_le hk (Nat.le_of_not_lt ‹_›))

example : ∃ segs, splitGeneric kmerTracker (Ragc.Kmer.new 3) exSpl true 3 exContig = some segs ∧ segs ≠ [] :=
  split_total _ _ _ _ _ _ (by decide)

/-- The segment data tile the contig: the first segment is a prefix, each later segment starts
    exactly `k` symbols before the previous one ends and has at least `k` symbols, the last segment
    ends at the end of the contig. -/
theorem split_tiles {T : Tracker σ} {k : Nat} {R : σ → Nat → Prop} (hT : T.Window k R) (init : σ)
    (h0 : R init 0) (isSplitter : UInt64 → Bool) (ws : Bool) (contig : List UInt8) (hk : 1 ≤ k)
    (segs : List Segment) (h : splitGeneric T init isSplitter ws k contig = some segs) :
    Tiles k contig (segs.map Segment.data) := by
  rcases splitGeneric_some hk h with ⟨_, rfl⟩ | ⟨hl, rfl⟩
  · exact tiles_single k contig
  · exact build_tiles ws k contig hk (Nat.lt_of_lt_of_le hk hl) _ _ _ (cuts_ok_zero hT h0 isSplitter ws contig)

/-- Dropping the first `k` symbols of every later piece of a tiling and concatenating gives back
    the tiled sequence. -/
theorem reassemble_tiles (k : Nat) (c : List α) (ps : List (List α)) (h : Tiles k c ps) :
    reassemble k ps = c :=
  reassemble_of_tiles k c ps h

example : reassemble 2 [[1, 2, 3], [2, 3, 4, 5], [4, 5]] = [1, 2, 3, 4, 5] :=
  reassemble_tiles 2 [1, 2, 3, 4, 5] _ (by simp [Tiles, TilesFrom])

example : Tiles 3 exContig (exSegsPlain.map Segment.data) :=
  split_tiles (kmer_window 3) _ (kmer_init 3) exSpl false exContig (by decide) exSegsPlain
    (splitConcrete_some (by decide) (by decide) ex_plain)

/-- Segmentation followed by reassembly is the identity. -/
theorem split_reassemble {T : Tracker σ} {k : Nat} {R : σ → Nat → Prop} (hT : T.Window k R) (init : σ)
    (h0 : R init 0) (isSplitter : UInt64 → Bool) (ws : Bool) (contig : List UInt8) (hk : 1 ≤ k)
    (segs : List Segment) (h : splitGeneric T init isSplitter ws k contig = some segs) :
    reassemble k (segs.map Segment.data) = contig :=
  reassemble_tiles k contig _ (split_tiles hT init h0 isSplitter ws contig hk segs h)

example : reassemble 3 (exSegsWs.map Segment.data) = exContig :=
  split_reassemble (kmer_window 3) _ (kmer_init 3) exSpl true exContig (by decide) exSegsWs ex_ws_generic

/-- Every segment after the first has at least `k` symbols. -/
theorem later_ge_k {T : Tracker σ} {k : Nat} {R : σ → Nat → Prop} (hT : T.Window k R) (init : σ)
    (h0 : R init 0) (isSplitter : UInt64 → Bool) (ws : Bool) (contig : List UInt8) (hk : 1 ≤ k)
    (segs : List Segment) (h : splitGeneric T init isSplitter ws k contig = some segs) :
    ∀ s ∈ segs.tail, k ≤ s.data.length := by
  have ht := split_tiles hT init h0 isSplitter ws contig hk segs h
  cases segs with
  | nil => exact fun _ hs => nomatch hs
  | cons a rest => exact fun s hs => tilesFrom_later_ge k contig _ _ ht.2.2 s.data (List.mem_map_of_mem hs)

example : ∀ s ∈ exSegsWs.tail, 3 ≤ s.data.length :=
  later_ge_k (kmer_window 3) _ (kmer_init 3) exSpl true exContig (by decide) exSegsWs ex_ws_generic

/-- Consecutive segments share exactly the `k` boundary symbols: the first `k` symbols of `b` are
    the last `k` symbols of `a` (these are the symbols `reassemble` drops). -/
theorem overlap_eq {T : Tracker σ} {k : Nat} {R : σ → Nat → Prop} (hT : T.Window k R) (init : σ)
    (h0 : R init 0) (isSplitter : UInt64 → Bool) (ws : Bool) (contig : List UInt8) (hk : 1 ≤ k)
    (segs : List Segment) (h : splitGeneric T init isSplitter ws k contig = some segs)
    (pre post : List Segment) (a b : Segment) (hsegs : segs = pre ++ a :: b :: post) :
    b.data.take k = a.data.drop (a.data.length - k) := by
  have ht := split_tiles hT init h0 isSplitter ws contig hk segs h
  rw [hsegs, List.map_append, List.map_cons, List.map_cons] at ht
  exact tiles_overlap_at ht

example : exSegsWs[2].data.take 3 = [2, 0, 1] :=
  overlap_eq (kmer_window 3) _ (kmer_init 3) exSpl true exContig (by decide) exSegsWs ex_ws_generic
    [_] [] _ _ rfl

/-- No segment of a non-empty contig is empty. -/
theorem segments_nonempty {T : Tracker σ} {k : Nat} {R : σ → Nat → Prop} (hT : T.Window k R) (init : σ)
    (h0 : R init 0) (isSplitter : UInt64 → Bool) (ws : Bool) (contig : List UInt8) (hk : 1 ≤ k)
    (hne : contig ≠ []) (segs : List Segment) (h : splitGeneric T init isSplitter ws k contig = some segs) :
    ∀ s ∈ segs, s.data ≠ [] :=
  fun s hs => tiles_nonempty k hk contig _ (split_tiles hT init h0 isSplitter ws contig hk segs h) hne
    s.data (List.mem_map_of_mem hs)

example : ∀ s ∈ exSegsCount, s.data ≠ [] :=
  segments_nonempty (countTracker_window 2) 0 (Nat.le_refl _) _ true _ (by decide) (by decide) _ ex_count

/-- `split_at_splitters_with_size` restarts the window after a split, so a later segment that is
    not the last one has at least `2k` symbols. -/
theorem later_nonfinal_ge_2k {T : Tracker σ} {k : Nat} {R : σ → Nat → Prop} (hT : T.Window k R)
    (init : σ) (h0 : R init 0) (isSplitter : UInt64 → Bool) (contig : List UInt8) (hk : 1 ≤ k)
    (segs : List Segment) (h : splitGeneric T init isSplitter true k contig = some segs) :
    ∀ s ∈ segs.tail.dropLast, 2 * k ≤ s.data.length := by
  cases segs with
  | nil => exact fun _ hs => nomatch hs
  | cons x rest =>
    intro s hs
    obtain ⟨pre, b, post, rfl⟩ := pair_of_mem_dropLast hs
    obtain ⟨lo, c, hpre, ⟨_, _, hcl⟩, hgap, hd, _⟩ := splitGeneric_pair hT h0 hk (pre := x :: pre) h
      (cuts_gap hT isSplitter contig init 0 0 (Nat.le_refl _) h0)
    have hlo := (hpre.resolve_left fun h => List.cons_ne_nil _ _ h.1).2
    rw [hd, length_take_drop hcl]
    exact Nat.le_sub_of_add_le
      (by rw [Nat.two_mul, Nat.add_assoc, Nat.add_sub_cancel' hlo, Nat.add_comm]; exact hgap)

example : ∀ s ∈ exSegsCount.tail.dropLast, 2 * 2 ≤ s.data.length :=
  later_nonfinal_ge_2k (countTracker_window 2) 0 (Nat.le_refl _) _ _ (by decide) _ ex_count

/-- For consecutive segments `a`, `b`: the back k-mer of `a` is the front k-mer of `b`, it belongs
    to the splitter set, and `b`'s front orientation flag is `a`'s back flag (reported as `false`
    by `with_size` if the value equals the `MISSING_KMER` sentinel).  Any tracker. -/
theorem boundary_kmers (T : Tracker σ) (init : σ) (isSplitter : UInt64 → Bool) (ws : Bool) (k : Nat)
    (contig : List UInt8) (hk : 1 ≤ k) (segs : List Segment)
    (h : splitGeneric T init isSplitter ws k contig = some segs)
    (pre post : List Segment) (a b : Segment) (hsegs : segs = pre ++ a :: b :: post) :
    a.backKmer = b.frontKmer ∧ isSplitter a.backKmer = true ∧
      b.frontKmerIsDir = frontDirOut ws a.backKmer a.backKmerIsDir :=
  (hsegs ▸ splitGeneric_linked hk h).boundary

example : exSegsWs[0].backKmer = exSegsWs[1].frontKmer ∧ exSpl exSegsWs[0].backKmer = true ∧
    exSegsWs[1].frontKmerIsDir = frontDirOut true exSegsWs[0].backKmer exSegsWs[0].backKmerIsDir :=
  boundary_kmers _ _ exSpl true 3 exContig (by decide) exSegsWs ex_ws_generic
    [] [_] _ _ rfl

/-- `with_size`, relative to the tracker: the k-mer recorded at a boundary (back of `a`, front of
    `b`) is the tracker's value — and the window is full — after scanning, from a fresh state, the
    symbols since the last split: all of `a` if it is the first segment, `a` without its `k` overlap
    symbols otherwise.  (`hreset`: a reset tracker is in the fresh state.) -/
theorem boundary_kmers_state {T : Tracker σ} {k : Nat} {R : σ → Nat → Prop} (hT : T.Window k R)
    (init : σ) (h0 : R init 0) (hreset : ∀ s n, R s n → T.reset s = init)
    (isSplitter : UInt64 → Bool) (contig : List UInt8) (hk : 1 ≤ k) (segs : List Segment)
    (h : splitGeneric T init isSplitter true k contig = some segs)
    (pre post : List Segment) (a b : Segment) (hsegs : segs = pre ++ a :: b :: post) :
    T.isFull (T.feed init (if pre = [] then a.data else a.data.drop k)) = true ∧
      a.backKmer = T.data (T.feed init (if pre = [] then a.data else a.data.drop k)) ∧
      b.frontKmer = T.data (T.feed init (if pre = [] then a.data else a.data.drop k)) ∧
      a.backKmerIsDir = T.isDirOriented (T.feed init (if pre = [] then a.data else a.data.drop k)) := by
  subst hsegs
  obtain ⟨lo, c, hpre, _, ⟨hf, hv, hd⟩, hdata, hbv, hbd⟩ := splitGeneric_pair hT h0 hk h
    (cuts_state hT init h0 isSplitter true (fun _ => hreset) contig)
  rw [if_pos rfl] at hf hv hd
  rw [hdata, fromCut_new_symbols hpre, ← (splitGeneric_linked hk h).boundary.1, hbv, hbd]
  exact ⟨hf, hv, hv, hd⟩

example : (countTracker 2).isFull ((countTracker 2).feed 0 [4, 3, 0]) = true :=
  (boundary_kmers_state (countTracker_window 2) 0 (Nat.le_refl _) (fun _ _ _ => rfl) _ _ (by decide) _ ex_count
    [_] [] _ _ rfl).1

/-- Both functions, relative to a window-exact tracker (`WindowExact`: after scanning anything that
    ends in `k` bases `w` the value is `canon w` — what C20 proves for `Kmer`): every non-final
    segment `a` ends with `k` bases `w` (no `N` or IUPAC code inside), and `canon w` is recorded as
    the back k-mer of `a` and the front k-mer of the next segment, and is a splitter. -/
theorem boundary_kmers_window {T : Tracker σ} {k : Nat} {R : σ → Nat → Prop} (hT : T.Window k R)
    (init : σ) (h0 : R init 0) (canon : List UInt8 → UInt64) (hexact : WindowExact T init k canon)
    (isSplitter : UInt64 → Bool) (ws : Bool) (hreset : ws = true → ∀ s n, R s n → T.reset s = init)
    (contig : List UInt8) (hk : 1 ≤ k) (segs : List Segment)
    (h : splitGeneric T init isSplitter ws k contig = some segs)
    (pre post : List Segment) (a b : Segment) (hsegs : segs = pre ++ a :: b :: post) :
    (a.data.drop (a.data.length - k)).length = k ∧ (∀ x ∈ a.data.drop (a.data.length - k), x ≤ 3) ∧
      a.backKmer = canon (a.data.drop (a.data.length - k)) ∧
      b.frontKmer = canon (a.data.drop (a.data.length - k)) ∧
      isSplitter (canon (a.data.drop (a.data.length - k))) = true := by
  subst hsegs
  obtain ⟨lo, c, hpre, ⟨hlo, hkc, hcl⟩, ⟨hf, hv, _⟩, hdata, hbv, _⟩ := splitGeneric_pair hT h0 hk h
    (cuts_state hT init h0 isSplitter ws hreset contig)
  obtain ⟨h1, h2, h3⟩ := window_at hT init h0 canon hexact contig hcl hf
  have hb := (splitGeneric_linked hk h).boundary
  rw [hdata, fromCut_last_k hpre hlo hkc hcl, ← hb.1, hbv, hv, h3]
  exact ⟨h1, h2, rfl, rfl, h3 ▸ hv ▸ hbv ▸ hb.2.1⟩

example : ∀ x ∈ ([3, 0] : List UInt8), x ≤ 3 :=
  (boundary_kmers_window (countTracker_window 2) 0 (Nat.le_refl _) _ (countTracker_exact 2) _ true
    (fun _ _ _ _ => rfl) _ (by decide) _ ex_count [_] [] _ _ rfl).2.1

/-- The first segment has no front k-mer. -/
theorem first_front_missing (T : Tracker σ) (init : σ) (isSplitter : UInt64 → Bool) (ws : Bool) (k : Nat)
    (contig : List UInt8) (hk : 1 ≤ k) (segs : List Segment)
    (h : splitGeneric T init isSplitter ws k contig = some segs) :
    ∀ s, segs.head? = some s → s.frontKmer = MISSING_KMER ∧ s.frontKmerIsDir = false := by
  have hl := splitGeneric_linked hk h
  cases segs with
  | nil => exact fun _ hs => nomatch hs
  | cons x rest =>
    intro s hs
    cases hs
    exact ⟨hl.head_front.1, hl.head_front.2.trans (frontDirOut_false ws _)⟩

example : exSegsCount[0].frontKmer = MISSING_KMER ∧ exSegsCount[0].frontKmerIsDir = false :=
  first_front_missing _ _ _ true 2 _ (by decide) _ ex_count _ rfl

/-- The last segment has no back k-mer (the Rust never records one, even when the contig ends
    exactly at a splitter: then a final segment of exactly `k` symbols follows). -/
theorem last_back_missing (T : Tracker σ) (init : σ) (isSplitter : UInt64 → Bool) (ws : Bool) (k : Nat)
    (contig : List UInt8) (hk : 1 ≤ k) (segs : List Segment)
    (h : splitGeneric T init isSplitter ws k contig = some segs) :
    ∀ s, segs.getLast? = some s → s.backKmer = MISSING_KMER ∧ s.backKmerIsDir = false :=
  (splitGeneric_linked hk h).last_back

example : exSegsCount[2].backKmer = MISSING_KMER ∧ exSegsCount[2].backKmerIsDir = false :=
  last_back_missing _ _ _ true 2 _ (by decide) _ ex_count _ rfl

/-- A contig shorter than `k`, or one in which no k-mer seen by the scan (`Tracker.enum`, i.e.
    `enumerate_kmers`) is a splitter, is returned as one segment equal to the contig with both
    k-mers missing.  This includes the empty contig (one empty segment). -/
theorem no_splitter_single (T : Tracker σ) (init : σ) (isSplitter : UInt64 → Bool) (ws : Bool) (k : Nat)
    (contig : List UInt8) (hk : 1 ≤ k)
    (hno : contig.length < k ∨ ∀ v ∈ T.enum init contig, isSplitter v = false) :
    splitGeneric T init isSplitter ws k contig = some [wholeSegment contig] := by
  rw [splitGeneric_eq T init isSplitter ws k contig hk]
  by_cases hl : contig.length < k
  · rw [if_pos hl]
  · rw [if_neg hl, (cuts_eq_nil_iff T isSplitter ws contig init 0).mpr (hno.resolve_left hl),
      build_nil_whole ws k contig (Nat.lt_of_lt_of_le hk (Nat.le_of_not_lt hl))]

example : splitGeneric (countTracker 2) 0 (fun v => v == 8) false 2 [0, 1, 4, 3, 0, 9]
    = some [wholeSegment [0, 1, 4, 3, 0, 9]] :=
  no_splitter_single _ _ _ false 2 _ (by decide) (Or.inr (by decide))

/-- Conversely, the first splitter occurrence always splits: at least two segments. -/
theorem splitter_occurrence_splits (T : Tracker σ) (init : σ) (isSplitter : UInt64 → Bool) (ws : Bool)
    (k : Nat) (contig : List UInt8) (hk : 1 ≤ k) (hl : k ≤ contig.length)
    (hocc : ∃ v ∈ T.enum init contig, isSplitter v = true) (segs : List Segment)
    (h : splitGeneric T init isSplitter ws k contig = some segs) : 2 ≤ segs.length := by
  rcases splitGeneric_some hk h with ⟨hlt, _⟩ | ⟨_, rfl⟩
  · exact absurd hl (Nat.not_le_of_lt hlt)
  · have hok := cuts_splitter T init isSplitter ws contig
    cases hc : cuts T isSplitter ws init 0 contig with
    | nil =>
      obtain ⟨v, hv, hs⟩ := hocc
      rw [(cuts_eq_nil_iff T isSplitter ws contig init 0).mp hc v hv] at hs
      cases hs
    | cons c cs =>
      rw [hc] at hok
      rw [build]
      exact Nat.succ_le_succ (List.length_pos_iff.mpr
        (build_ne_nil (Nat.lt_of_lt_of_le (Nat.sub_lt hok.1.1 hk) hok.1.2.1)))

example : 2 ≤ exSegsCount.length :=
  splitter_occurrence_splits (countTracker 2) 0 (fun v => v == 7) true 2 [0, 1, 4, 3, 0, 9] (by decide)
    (by decide) ⟨7, by decide, by decide⟩ _ ex_count

/-! ## Part 2 — the Rust functions

`splitConcrete true` is `split_at_splitters_with_size` (for every `_min_segment_size`),
`splitConcrete false` is `split_at_splitters` (both by `rfl`, see `with_size_eq` / `plain_eq`);
`1 ≤ k ≤ 32` is the domain on which `Kmer::new` is defined. -/

theorem with_size_eq (contig : List UInt8) (isSplitter : UInt64 → Bool) (k minSeg : Nat) :
    splitAtSplittersWithSize contig isSplitter k minSeg = splitConcrete true contig isSplitter k := rfl

theorem plain_eq (contig : List UInt8) (isSplitter : UInt64 → Bool) (k : Nat) :
    splitAtSplitters contig isSplitter k = splitConcrete false contig isSplitter k := rfl

/-- `_min_segment_size` is not used. -/
theorem min_segment_size_unused (contig : List UInt8) (isSplitter : UInt64 → Bool) (k m m' : Nat) :
    splitAtSplittersWithSize contig isSplitter k m = splitAtSplittersWithSize contig isSplitter k m' := rfl

example : splitAtSplittersWithSize exContig exSpl 3 0 = some exSegsWs :=
  (min_segment_size_unused exContig exSpl 3 0 20).trans ex_ws

/-- Both functions return a non-empty list of segments and never index out of range. -/
theorem split_total_rust (ws : Bool) (contig : List UInt8) (isSplitter : UInt64 → Bool) (k : Nat)
    (hk : 1 ≤ k) (hk32 : k ≤ 32) :
    ∃ segs, splitConcrete ws contig isSplitter k = some segs ∧ segs ≠ [] := by
  rw [splitConcrete_eq ws contig isSplitter k hk hk32]
  exact split_total _ _ _ _ _ _ hk

example : ∃ segs, splitAtSplitters exContig exSpl 3 = some segs ∧ segs ≠ [] :=
  split_total_rust false exContig exSpl 3 (by decide) (by decide)

theorem split_tiles_rust (ws : Bool) (contig : List UInt8) (isSplitter : UInt64 → Bool) (k : Nat)
    (hk : 1 ≤ k) (hk32 : k ≤ 32) (segs : List Segment)
    (h : splitConcrete ws contig isSplitter k = some segs) :
    Tiles k contig (segs.map Segment.data) :=
  split_tiles (kmer_window k) _ (kmer_init k) isSplitter ws contig hk segs (splitConcrete_some hk hk32 h)

example : Tiles 3 exContig [[0, 1, 0, 4, 1, 1, 0, 1, 2], [0, 1, 2, 2, 2, 0, 1], [2, 0, 1, 3]] :=
  split_tiles_rust true exContig exSpl 3 (by decide) (by decide) exSegsWs ex_ws

theorem split_reassemble_rust (ws : Bool) (contig : List UInt8) (isSplitter : UInt64 → Bool) (k : Nat)
    (hk : 1 ≤ k) (hk32 : k ≤ 32) (segs : List Segment)
    (h : splitConcrete ws contig isSplitter k = some segs) :
    reassemble k (segs.map Segment.data) = contig :=
  split_reassemble (kmer_window k) _ (kmer_init k) isSplitter ws contig hk segs (splitConcrete_some hk hk32 h)

example : [0, 1, 0, 4, 1, 1, 0, 1, 2] ++ ([2, 2] ++ ([0, 1] ++ ([3] ++ []))) = exContig :=
  split_reassemble_rust false exContig exSpl 3 (by decide) (by decide) exSegsPlain ex_plain

theorem later_ge_k_rust (ws : Bool) (contig : List UInt8) (isSplitter : UInt64 → Bool) (k : Nat)
    (hk : 1 ≤ k) (hk32 : k ≤ 32) (segs : List Segment)
    (h : splitConcrete ws contig isSplitter k = some segs) :
    ∀ s ∈ segs.tail, k ≤ s.data.length :=
  later_ge_k (kmer_window k) _ (kmer_init k) isSplitter ws contig hk segs (splitConcrete_some hk hk32 h)

example : ∀ s ∈ exSegsPlain.tail, 3 ≤ s.data.length :=
  later_ge_k_rust false exContig exSpl 3 (by decide) (by decide) exSegsPlain ex_plain

theorem overlap_eq_rust (ws : Bool) (contig : List UInt8) (isSplitter : UInt64 → Bool) (k : Nat)
    (hk : 1 ≤ k) (hk32 : k ≤ 32) (segs : List Segment)
    (h : splitConcrete ws contig isSplitter k = some segs)
    (pre post : List Segment) (a b : Segment) (hsegs : segs = pre ++ a :: b :: post) :
    b.data.take k = a.data.drop (a.data.length - k) :=
  overlap_eq (kmer_window k) _ (kmer_init k) isSplitter ws contig hk segs (splitConcrete_some hk hk32 h)
    pre post a b hsegs

example : exSegsPlain[2].data.take 3 = [2, 2, 2] :=
  overlap_eq_rust false exContig exSpl 3 (by decide) (by decide) exSegsPlain ex_plain
    [_] [_] _ _ rfl

theorem segments_nonempty_rust (ws : Bool) (contig : List UInt8) (isSplitter : UInt64 → Bool) (k : Nat)
    (hk : 1 ≤ k) (hk32 : k ≤ 32) (hne : contig ≠ []) (segs : List Segment)
    (h : splitConcrete ws contig isSplitter k = some segs) : ∀ s ∈ segs, s.data ≠ [] :=
  segments_nonempty (kmer_window k) _ (kmer_init k) isSplitter ws contig hk hne segs
    (splitConcrete_some hk hk32 h)

example : ∀ s ∈ exSegsWs, s.data ≠ [] :=
  segments_nonempty_rust true exContig exSpl 3 (by decide) (by decide) (by decide) exSegsWs ex_ws

theorem later_nonfinal_ge_2k_rust (contig : List UInt8) (isSplitter : UInt64 → Bool) (k minSeg : Nat)
    (hk : 1 ≤ k) (hk32 : k ≤ 32) (segs : List Segment)
    (h : splitAtSplittersWithSize contig isSplitter k minSeg = some segs) :
    ∀ s ∈ segs.tail.dropLast, 2 * k ≤ s.data.length :=
  later_nonfinal_ge_2k (kmer_window k) _ (kmer_init k) isSplitter contig hk segs (splitConcrete_some hk hk32 h)

example : ∀ s ∈ exSegsWs.tail.dropLast, 2 * 3 ≤ s.data.length :=
  later_nonfinal_ge_2k_rust exContig exSpl 3 20 (by decide) (by decide) exSegsWs ex_ws

/-- `split_at_splitters` keeps the window across a split, so there the `2k` bound fails
    (segments of `k+2` symbols in the example) — only `later_ge_k` holds for it. -/
example : ¬ ∀ s ∈ exSegsPlain.tail.dropLast, 2 * 3 ≤ s.data.length := by decide

theorem boundary_kmers_rust (ws : Bool) (contig : List UInt8) (isSplitter : UInt64 → Bool) (k : Nat)
    (hk : 1 ≤ k) (hk32 : k ≤ 32) (segs : List Segment)
    (h : splitConcrete ws contig isSplitter k = some segs)
    (pre post : List Segment) (a b : Segment) (hsegs : segs = pre ++ a :: b :: post) :
    a.backKmer = b.frontKmer ∧ isSplitter a.backKmer = true ∧
      b.frontKmerIsDir = frontDirOut ws a.backKmer a.backKmerIsDir :=
  boundary_kmers _ _ isSplitter ws k contig hk segs (splitConcrete_some hk hk32 h) pre post a b hsegs

example : exSegsWs[1].backKmer = exSegsWs[2].frontKmer ∧ exSpl exSegsWs[1].backKmer = true ∧
    exSegsWs[2].frontKmerIsDir = frontDirOut true exSegsWs[1].backKmer exSegsWs[1].backKmerIsDir :=
  boundary_kmers_rust true exContig exSpl 3 (by decide) (by decide) exSegsWs ex_ws
    [_] [] _ _ rfl

/-- `split_at_splitters_with_size`: the boundary k-mer is `Kmer.data` of the `Kmer` obtained by
    scanning (reset at codes `> 3`, insert otherwise) the symbols since the last split. -/
theorem boundary_kmers_state_rust (contig : List UInt8) (isSplitter : UInt64 → Bool) (k minSeg : Nat)
    (hk : 1 ≤ k) (hk32 : k ≤ 32) (segs : List Segment)
    (h : splitAtSplittersWithSize contig isSplitter k minSeg = some segs)
    (pre post : List Segment) (a b : Segment) (hsegs : segs = pre ++ a :: b :: post) :
    Ragc.Kmer.isFull (Ragc.Kmer.feed (Ragc.Kmer.new k)
        ((if pre = [] then a.data else a.data.drop k).map UInt8.toUInt64)) = true ∧
      a.backKmer = Ragc.Kmer.data (Ragc.Kmer.feed (Ragc.Kmer.new k)
        ((if pre = [] then a.data else a.data.drop k).map UInt8.toUInt64)) ∧
      b.frontKmer = Ragc.Kmer.data (Ragc.Kmer.feed (Ragc.Kmer.new k)
        ((if pre = [] then a.data else a.data.drop k).map UInt8.toUInt64)) ∧
      a.backKmerIsDir = Ragc.Kmer.isDirOriented (Ragc.Kmer.feed (Ragc.Kmer.new k)
        ((if pre = [] then a.data else a.data.drop k).map UInt8.toUInt64)) := by
  have := boundary_kmers_state (kmer_window k) (Ragc.Kmer.new k) (kmer_init k) (kmer_reset_eq k) isSplitter
    contig hk segs (splitConcrete_some hk hk32 h) pre post a b hsegs
  rwa [feed_kmerTracker] at this

example : exSegsWs[1].backKmer =
    Ragc.Kmer.data (Ragc.Kmer.feed (Ragc.Kmer.new 3) ([2, 2, 0, 1].map UInt8.toUInt64)) :=
  (boundary_kmers_state_rust exContig exSpl 3 20 (by decide) (by decide) exSegsWs ex_ws
    [_] [] _ _ rfl).2.1

/-- Both Rust functions: given C20's window-exactness of the `Kmer` model (`hexact`), every
    non-final segment ends with `k` bases `w` and `canon w` is its back k-mer, the next segment's
    front k-mer, and a splitter. -/
theorem boundary_kmers_window_rust (ws : Bool) (contig : List UInt8) (isSplitter : UInt64 → Bool) (k : Nat)
    (hk : 1 ≤ k) (hk32 : k ≤ 32) (canon : List UInt8 → UInt64)
    (hexact : ∀ (pre w : List UInt8), w.length = k → (∀ x ∈ w, x ≤ 3) →
      Ragc.Kmer.data (Ragc.Kmer.feed (Ragc.Kmer.new k) ((pre ++ w).map UInt8.toUInt64)) = canon w)
    (segs : List Segment) (h : splitConcrete ws contig isSplitter k = some segs)
    (pre post : List Segment) (a b : Segment) (hsegs : segs = pre ++ a :: b :: post) :
    (a.data.drop (a.data.length - k)).length = k ∧ (∀ x ∈ a.data.drop (a.data.length - k), x ≤ 3) ∧
      a.backKmer = canon (a.data.drop (a.data.length - k)) ∧
      b.frontKmer = canon (a.data.drop (a.data.length - k)) ∧
      isSplitter (canon (a.data.drop (a.data.length - k))) = true := by
  have hex : WindowExact kmerTracker (Ragc.Kmer.new k) k canon := fun p w hw hb =>
    (congrArg Ragc.Kmer.data (feed_kmerTracker (p ++ w) (Ragc.Kmer.new k))).trans (hexact p w hw hb)
  exact boundary_kmers_window (kmer_window k) (Ragc.Kmer.new k) (kmer_init k) canon hex isSplitter ws
    (fun _ => kmer_reset_eq k) contig hk segs (splitConcrete_some hk hk32 h) pre post a b hsegs

-- Non-vacuity of `boundary_kmers_window_rust`: its hypothesis `hexact` is C20's `slide_eq_scratch`
-- for the `Kmer` model; the generic theorem `boundary_kmers_window` is instantiated above on a
-- tracker for which window-exactness holds by `rfl`, and `boundary_kmers_state_rust` gives the
-- unconditional form for `Kmer`.
example : splitConcrete true exContig exSpl 3 = some exSegsWs := ex_ws

/-- **Closed form** (C10 + C20): the hypothesis of `boundary_kmers_window_rust` is discharged by
    C20's `slide_canonical`. For both Rust functions and every `1 ≤ k ≤ 32`: every non-final segment
    ends with `k` bases (all ACGT), and the canonical k-mer of exactly those `k` bases, computed from
    scratch (`Ragc.Kmer.canon`: the smaller of the forward and the reverse-complement packing), is
    the segment's recorded back k-mer, the next segment's front k-mer, and a member of the splitter
    set. -/
theorem boundary_kmers_canonical (ws : Bool) (contig : List UInt8) (isSplitter : UInt64 → Bool) (k : Nat)
    (hk : 1 ≤ k) (hk32 : k ≤ 32) (segs : List Segment)
    (h : splitConcrete ws contig isSplitter k = some segs)
    (pre post : List Segment) (a b : Segment) (hsegs : segs = pre ++ a :: b :: post) :
    let w := a.data.drop (a.data.length - k)
    w.length = k ∧ (∀ x ∈ w, x ≤ 3) ∧
      a.backKmer = Ragc.Kmer.canon (w.map UInt8.toUInt64) ∧
      b.frontKmer = Ragc.Kmer.canon (w.map UInt8.toUInt64) ∧
      isSplitter (Ragc.Kmer.canon (w.map UInt8.toUInt64)) = true := by
  refine boundary_kmers_window_rust ws contig isSplitter k hk hk32
    (fun w => Ragc.Kmer.canon (w.map UInt8.toUInt64)) ?_ segs h pre post a b hsegs
  intro p w hw hb
  rw [List.map_append]
  have hv : Ragc.Kmer.Valid (w.map UInt8.toUInt64) := by
    intro x hx
    rcases List.mem_map.mp hx with ⟨y, hy, rfl⟩
    exact UInt64.not_lt.mp fun h => UInt8.not_lt.mpr (hb y hy) ((u8_gt3_iff y).mp h)
  exact (Ragc.Props.C20.slide_canonical k hk hk32 (p.map UInt8.toUInt64) (w.map UInt8.toUInt64) hv
    (by rw [List.length_map]; exact hw)).1

theorem first_front_missing_rust (ws : Bool) (contig : List UInt8) (isSplitter : UInt64 → Bool) (k : Nat)
    (hk : 1 ≤ k) (hk32 : k ≤ 32) (segs : List Segment)
    (h : splitConcrete ws contig isSplitter k = some segs) :
    ∀ s, segs.head? = some s → s.frontKmer = MISSING_KMER ∧ s.frontKmerIsDir = false :=
  first_front_missing _ _ isSplitter ws k contig hk segs (splitConcrete_some hk hk32 h)

example : exSegsWs[0].frontKmer = MISSING_KMER ∧ exSegsWs[0].frontKmerIsDir = false :=
  first_front_missing_rust true exContig exSpl 3 (by decide) (by decide) exSegsWs ex_ws _ rfl

theorem last_back_missing_rust (ws : Bool) (contig : List UInt8) (isSplitter : UInt64 → Bool) (k : Nat)
    (hk : 1 ≤ k) (hk32 : k ≤ 32) (segs : List Segment)
    (h : splitConcrete ws contig isSplitter k = some segs) :
    ∀ s, segs.getLast? = some s → s.backKmer = MISSING_KMER ∧ s.backKmerIsDir = false :=
  last_back_missing _ _ isSplitter ws k contig hk segs (splitConcrete_some hk hk32 h)

example : exSegsPlain[3].backKmer = MISSING_KMER ∧ exSegsPlain[3].backKmerIsDir = false :=
  last_back_missing_rust false exContig exSpl 3 (by decide) (by decide) exSegsPlain ex_plain _ rfl

/-- No canonical k-mer of the contig (as listed by `enumerate_kmers`) is a splitter, or the contig
    is shorter than `k` (for any `k ≥ 1`, also beyond 32: the Rust returns before creating the
    k-mer): one segment, the whole contig, both k-mers missing. -/
theorem no_splitter_single_rust (ws : Bool) (contig : List UInt8) (isSplitter : UInt64 → Bool) (k : Nat)
    (hk : 1 ≤ k)
    (hno : contig.length < k ∨
      (k ≤ 32 ∧ ∀ v ∈ Ragc.Kmer.enumerateKmers (contig.map UInt8.toUInt64) k, isSplitter v = false)) :
    splitConcrete ws contig isSplitter k = some [wholeSegment contig] := by
  by_cases hl : contig.length < k
  · rw [splitConcrete, if_pos hl]
  · obtain ⟨hk32, hv⟩ := hno.resolve_left hl
    rw [splitConcrete_eq ws contig isSplitter k hk hk32]
    exact no_splitter_single _ _ isSplitter ws k contig hk
      (Or.inr (enum_kmer_eq contig k (Nat.le_of_not_lt hl) ▸ hv))

example : splitAtSplittersWithSize exContig (fun v => v == 77) 3 0 = some [wholeSegment exContig] :=
  no_splitter_single_rust true exContig _ 3 (by decide) (Or.inr ⟨by decide, by decide⟩)
example : splitAtSplitters [0, 1] exSpl 3 = some [wholeSegment [0, 1]] :=
  no_splitter_single_rust false [0, 1] _ 3 (by decide) (Or.inl (by decide))
example : splitAtSplittersWithSize [] exSpl 40 0 = some [wholeSegment []] :=
  no_splitter_single_rust true [] _ 40 (by decide) (Or.inl (by decide))

theorem splitter_occurrence_splits_rust (ws : Bool) (contig : List UInt8) (isSplitter : UInt64 → Bool)
    (k : Nat) (hk : 1 ≤ k) (hk32 : k ≤ 32) (hl : k ≤ contig.length)
    (hocc : ∃ v ∈ Ragc.Kmer.enumerateKmers (contig.map UInt8.toUInt64) k, isSplitter v = true)
    (segs : List Segment) (h : splitConcrete ws contig isSplitter k = some segs) : 2 ≤ segs.length := by
  rw [← enum_kmer_eq contig k hl] at hocc
  exact splitter_occurrence_splits _ _ isSplitter ws k contig hk hl hocc segs (splitConcrete_some hk hk32 h)

example : 2 ≤ exSegsWs.length :=
  splitter_occurrence_splits_rust true exContig exSpl 3 (by decide) (by decide) (by decide)
    ⟨1729382256910270464, by decide, by decide⟩ exSegsWs ex_ws

end Ragc.Props.C10
