import RagcModel.Model.Range
import RagcModel.Lemmas.Range
import RagcModel.Lemmas.ReaderLink
/-!
# C07 — range and length queries agree with full extraction

Model: `RagcModel/Model/Range.lean` (decompressor.rs `get_contig_range`, `get_contig_length`,
`reconstruct_contig`, `reverse_complement_segment`). Specification: `full k segs` — first segment
whole, every later one without its first `k` bytes — and the well-formedness `WF k segs` of the
reader's view (`raw_length` = decoded length for every segment, later segments at least `k` long);
both are defined in `Lemmas/Range.lean`, as are the example contigs `exSegs` (k = 2) and
`exSegs3` (k = 3) used for non-vacuity.

The last section ties these theorems to the reader-handle model of C08 (`Model/ReaderState.lean`)
and to files that `create` wrote (`Lemmas/ReaderLink.lean`): `handle_range_eq`, `handle_length_eq`
(every abstract archive on which the contig's descriptors load and are well formed) and
`range_on_written_archive`, `range_concat_on_written_archive` (the archive content of
`Writer.writeArchive`, where `WF` is discharged by the writer: `raw_length` = piece length, later
pieces at least `k` long).
-/
namespace Ragc.Props.C07
open Ragc.Range

/-- `reverse_complement_segment` is an involution on ALL code lists (codes ≥ 4, e.g. IUPAC codes
and anything else a byte can hold, are only moved, never changed). -/
theorem rc_segment_involutive (s : List Nat) :
    reverseComplementSegment (reverseComplementSegment s) = s :=
  Ragc.Roundtrip.rc_involutive s

example : reverseComplementSegment [0, 1, 2, 3, 4, 15, 30] = [30, 15, 4, 0, 1, 2, 3] := by decide +kernel

/-- `reverse_complement_segment` keeps the length (so `raw_length` is orientation independent). -/
theorem rc_segment_length (s : List Nat) : (reverseComplementSegment s).length = s.length := by
  simp [reverseComplementSegment]

/-- `reconstruct_contig` returns `full` whenever no later segment is shorter than `k`. -/
theorem reconstruct_eq_full (k : Nat) (segs : List Seg)
    (h : ∀ s ∈ segs.tail, k ≤ s.data.length) : reconstruct k segs = some (full k segs) :=
  Ragc.Range.reconstruct_eq_full k segs h

example : (∀ s ∈ exSegs.tail, 2 ≤ s.data.length) ∧
    reconstruct 2 exSegs = some [0, 1, 2, 3, 0, 1, 1, 2, 2, 3, 3] := by decide +kernel

/-- … and it fails (the "Corrupted archive: segment too short" exit) exactly otherwise. -/
theorem reconstruct_err (k : Nat) (segs : List Seg)
    (h : ∃ s ∈ segs.tail, s.data.length < k) : reconstruct k segs = none := by
  cases segs with
  | nil => simp at h
  | cons s rest => exact reconstructTail_none k rest s.data h

example : reconstruct 3 [⟨4, [0, 1, 2, 3]⟩, ⟨2, [1, 2]⟩] = none := by decide +kernel

/-- `get_contig_range` returns exactly the bases `[start, min(end, length))` of the fully
extracted contig, for ALL segment lists and ALL positions, whichever and however many segments
the range touches. -/
theorem range_eq (k : Nat) (segs : List Seg) (start end_ : Nat) (h : WF k segs) :
    contigRange k segs start end_
      = some (((full k segs).drop start).take (min end_ (full k segs).length - start)) := by
  obtain ⟨rs, hrs, hcol⟩ := passes_full k segs h
  simp only [contigRange, hrs]
  split
  · next hse =>
    exact congrArg some (slice_eq_nil _ _ _ (Nat.le_trans (Nat.min_le_left _ _) (Nat.le_trans (Nat.min_le_left _ _) hse))).symm
  · split
    · next hs => exact congrArg some (slice_eq_nil _ _ _ (Nat.le_trans (Nat.min_le_left _ _) hs)).symm
    · exact hcol start _

example : WF 2 exSegs ∧ contigRange 2 exSegs 3 10 = some [3, 0, 1, 1, 2, 2, 3] := by decide +kernel
example : contigRange 2 exSegs 4 6 = some [0, 1] ∧ contigRange 2 exSegs 8 1000 = some [2, 3, 3] := by
  decide +kernel
example : WF 3 exSegs3 ∧ contigRange 3 exSegs3 2 6 = some [2, 3, 4, 0] := by decide +kernel

/-- The hypothesis is needed: where a descriptor's `raw_length` is not the decoded length the range
query (which trusts `raw_length`) and the full extraction (which trusts the data) part ways. -/
example : ¬ WF 2 [⟨3, [0, 1, 2, 3, 0]⟩, ⟨4, [3, 0, 1, 1]⟩]
    ∧ contigRange 2 [⟨3, [0, 1, 2, 3, 0]⟩, ⟨4, [3, 0, 1, 1]⟩] 0 100 = some [0, 1, 2, 1, 1]
    ∧ full 2 [⟨3, [0, 1, 2, 3, 0]⟩, ⟨4, [3, 0, 1, 1]⟩] = [0, 1, 2, 3, 0, 1, 1] := by decide +kernel

/-- `start ≥ end` gives the empty answer (before anything is looked at; no hypothesis). -/
theorem range_empty_of_start_ge_end (k : Nat) (segs : List Seg) (start end_ : Nat)
    (h : start ≥ end_) : contigRange k segs start end_ = some [] := by
  simp [contigRange, h]

example : contigRange 2 exSegs 7 7 = some [] ∧ contigRange 2 exSegs 7 3 = some [] := by decide +kernel

/-- `start ≥ length` gives the empty answer. -/
theorem range_empty_of_start_ge_length (k : Nat) (segs : List Seg) (start end_ : Nat)
    (h : WF k segs) (hs : start ≥ (full k segs).length) : contigRange k segs start end_ = some [] := by
  rw [range_eq k segs start end_ h]
  exact congrArg some (slice_eq_nil _ _ _ (Nat.le_trans (Nat.min_le_right _ _) hs))

example : WF 2 exSegs ∧ 11 ≥ (full 2 exSegs).length ∧ contigRange 2 exSegs 11 1000 = some [] := by
  decide +kernel

/-- The answer has `min(end, length) - start` bases. -/
theorem range_length (k : Nat) (segs : List Seg) (start end_ : Nat) (h : WF k segs) :
    ∃ r, contigRange k segs start end_ = some r
      ∧ r.length = min end_ (full k segs).length - start :=
  ⟨_, range_eq k segs start end_ h, (congrArg List.length (slice_clamp _ _ _)).trans (length_slice _ _ _)⟩

/-- The whole range is the full extraction: `get_contig_range(0, len) = get_contig`. -/
theorem range_whole_eq_reconstruct (k : Nat) (segs : List Seg) (end_ : Nat) (h : WF k segs)
    (he : end_ ≥ (full k segs).length) : contigRange k segs 0 end_ = reconstruct k segs := by
  rw [range_eq k segs 0 end_ h, reconstruct_eq_full k segs h.2]
  exact congrArg some (List.take_of_length_le (Nat.le_min.mpr ⟨he, Nat.le_refl _⟩))

/-- Adjacent ranges concatenate: `[a,b) ++ [b,c) = [a,c)` for `a ≤ b ≤ c`. -/
theorem range_concat (k : Nat) (segs : List Seg) (a b c : Nat) (h : WF k segs)
    (hab : a ≤ b) (hbc : b ≤ c) :
    ∃ x y, contigRange k segs a b = some x ∧ contigRange k segs b c = some y
      ∧ contigRange k segs a c = some (x ++ y) :=
  ⟨_, _, range_eq k segs a b h, range_eq k segs b c h,
    (range_eq k segs a c h).trans (congrArg some (slice_adjacent_clamped _ a b c hab hbc).symm)⟩

example : contigRange 2 exSegs 3 6 = some [3, 0, 1] ∧ contigRange 2 exSegs 6 10 = some [1, 2, 2, 3]
    ∧ contigRange 2 exSegs 3 10 = some ([3, 0, 1] ++ [1, 2, 2, 3]) := by decide +kernel

/-- `get_contig_length` returns the length of the fully extracted contig. -/
theorem length_eq (k : Nat) (segs : List Seg) (h : WF k segs) :
    contigLength k (segs.map Seg.rawLen) = .ok (full k segs).length := by
  cases segs with
  | nil => rfl
  | cons s rest =>
    rw [full_length k s rest h.1, List.map_cons, contigLength, contigLengthLoop, if_pos rfl, contigLengthLoop_succ,
      Nat.zero_add, if_neg]
    rintro ⟨x, hx, hlt⟩
    obtain ⟨t, ht, rfl⟩ := List.mem_map.mp hx
    rw [h.1 t (List.mem_cons_of_mem _ ht)] at hlt
    exact Nat.not_le.mpr hlt (h.2 t ht)

example : WF 2 exSegs ∧ contigLength 2 (exSegs.map Seg.rawLen) = .ok 11
    ∧ (full 2 exSegs).length = 11 := by decide +kernel
example : WF 3 exSegs3 ∧ contigLength 3 (exSegs3.map Seg.rawLen) = .ok 6 := by decide +kernel

/-- The `raw_length - kmer_len` subtraction underflows (dev profile: panic) exactly when some later
descriptor has `raw_length < k` — a statement about the descriptor list alone (shared with C18). -/
theorem length_underflow_iff (k : Nat) (rawLens : List Nat) :
    contigLength k rawLens = .underflow ↔ ∃ x ∈ rawLens.tail, x < k := by
  cases rawLens with
  | nil => simp [contigLength, contigLengthLoop]
  | cons r rest =>
    rw [contigLength, contigLengthLoop, if_pos rfl, contigLengthLoop_succ, List.tail_cons]
    split <;> simp [*]

example : contigLength 3 [4, 2, 5] = .underflow ∧ contigLengthWrapping 3 [4, 2, 5] = 5 := by decide +kernel

/-- Under `WF` the checked (dev profile) and the wrapping (release profile) readings of
`get_contig_length` agree, for 64-bit `usize` (`k`, every `raw_length` and the contig length below
`2^64`). -/
theorem length_no_underflow (k : Nat) (segs : List Seg) (h : WF k segs)
    (hraw : ∀ s ∈ segs, s.rawLen < 2 ^ 64) (hlen : (full k segs).length < 2 ^ 64) :
    contigLength k (segs.map Seg.rawLen) = .ok (contigLengthWrapping k (segs.map Seg.rawLen)) := by
  rw [length_eq k segs h, contigLengthWrapping_eq k segs h hraw hlen]

example : WF 2 exSegs ∧ contigLengthWrapping 2 (exSegs.map Seg.rawLen) = 11 := by decide +kernel

/-! ## the handle model (C08) and archives that `create` wrote

`ReaderLink.answer_contigRange` / `answer_contigLength` / `answer_getContig`: when every descriptor
of the contig loads, the handle model's queries are `contigRange` / the wrapping length loop /
`reconstruct` on the loaded, re-oriented views `viewOf`. With `WF` of the views the theorems above
apply. -/

section Handle
open Ragc.ReaderLink

/-- **Range query of the handle = slice of the full extraction of the handle**, on EVERY abstract
archive: if the descriptors of contig `s/c` all load and the loaded views are well formed, then
`get_contig` answers `full` and `get_contig_range(start, end)` answers its bases
`[start, min(end, length))` — the checked (dev-profile) reading never panics there. -/
theorem handle_range_eq (A : Ragc.ReaderState.Arch) (s c : List Nat) (start end_ : Nat)
    (segs : List Ragc.Details.Seg)
    (hd : Ragc.ReaderState.contigDesc A.samples (Ragc.ReaderState.table A) s c = some segs)
    (hl : ∀ d ∈ segs, Loads A d) (hwf : WF A.k (segs.map (viewOf A))) :
    Ragc.ReaderState.answer A (.getContig s c) = .ok (.bases (full A.k (segs.map (viewOf A)))) ∧
    Ragc.ReaderState.answer A (.contigRange s c start end_) =
      .ok (.bases (((full A.k (segs.map (viewOf A))).drop start).take
        (min end_ (full A.k (segs.map (viewOf A))).length - start))) := by
  constructor
  · rw [answer_getContig A s c segs hd hl, reconstruct_eq_full A.k _ hwf.2]; rfl
  · rw [answer_contigRange A s c start end_ segs hd hl, range_eq A.k _ start end_ hwf]; rfl

/-- **Length query of the handle = length of the full extraction**, release (wrapping) reading, on
every abstract archive with well-formed views and 64-bit sizes. -/
theorem handle_length_eq (A : Ragc.ReaderState.Arch) (s c : List Nat) (segs : List Ragc.Details.Seg)
    (hd : Ragc.ReaderState.contigDesc A.samples (Ragc.ReaderState.table A) s c = some segs)
    (hwf : WF A.k (segs.map (viewOf A)))
    (hraw : ∀ v ∈ segs.map (viewOf A), v.rawLen < 2 ^ 64)
    (hlen : (full A.k (segs.map (viewOf A))).length < 2 ^ 64) :
    Ragc.ReaderState.answer A (.contigLength s c) = .ok (.nat (full A.k (segs.map (viewOf A))).length) := by
  rw [answer_contigLength A s c segs hd, contigLengthWrapping_eq A.k _ hwf hraw hlen]

-- non-vacuity: the two-batch archive of C08's examples; contig `A/x` = LZ reference + reverse-complemented delta
example :
    let A := Ragc.ReaderState.Arch.mk 3 [[65]] [[[⟨[120], [⟨16, 0, false, 5⟩, ⟨16, 1, true, 5⟩]⟩]]]
      (fun g => if g = 16 then .ok [0, 1, 2, 3, 0] else .err) (fun _ => .err)
      (fun g i r => if g = 16 ∧ i = 1 ∧ r = [0, 1, 2, 3, 0] then .ok [3, 3, 3, 0, 1] else .err)
      (fun _ _ => .err) []
    let segs : List Ragc.Details.Seg := [⟨16, 0, false, 5⟩, ⟨16, 1, true, 5⟩]
    Ragc.ReaderState.contigDesc A.samples (Ragc.ReaderState.table A) [65] [120] = some segs ∧
    WF A.k (segs.map (viewOf A)) ∧ full A.k (segs.map (viewOf A)) = [0, 1, 2, 3, 0, 0, 0] ∧
    Ragc.ReaderState.answer A (.contigRange [65] [120] 2 6) = .ok (.bases [2, 3, 0, 0]) := by decide +kernel

/-- **Range and length queries on an archive that `create` wrote** (general form: `Planned`, the
planner answers for every group — implied by "the writer answers" and by `min_match_len ≥ 4`, see
`Props.C08.planner_answers`). Well-formed decisions (so `k ≥ 1`), input over the literal codes,
distinct names. On the handle model over `ReaderLink.archOf cfg inp dec`, after ANY history `ops`, for
every contig of every sample of the input and ALL `start`, `end`:

* `get_contig_range(s, c, start, end)` = `ok` of the input contig's bases `[start, min(end, length))`;
* `get_contig_length(s, c)` = `ok` of the input contig's length (wrapping reading: no wrap occurs).

`WF` of `range_eq` / `length_eq` is discharged by the writer: every descriptor's `raw_length` is the
length of the piece it addresses and every later piece is at least `k` long (tiling). -/
theorem range_on_written_archive_planned (cfg : Ragc.Writer.Cfg) (inp : List Ragc.Writer.Sample)
    (dec : Ragc.Writer.Decisions)
    (hdec : Ragc.Writer.DecisionsOK cfg inp dec) (hcodes : Ragc.Writer.codesOK inp)
    (hpl : Planned cfg inp dec) (hnd : NamesDistinct inp)
    (ops : List Ragc.ReaderState.Op) (smp : Ragc.Writer.Sample) (hs : smp ∈ inp)
    (ctg : Ragc.Writer.Contig) (hc : ctg ∈ smp.contigs) (start end_ : Nat) :
    (Ragc.ReaderState.step (archOf cfg inp dec)
        (Ragc.ReaderState.run (archOf cfg inp dec) (Ragc.ReaderState.fresh (archOf cfg inp dec)) ops).1
        (.contigRange smp.name ctg.name start end_)).2
      = .ok (.bases ((ctg.data.drop start).take (min end_ ctg.data.length - start))) ∧
    (Ragc.ReaderState.step (archOf cfg inp dec)
        (Ragc.ReaderState.run (archOf cfg inp dec) (Ragc.ReaderState.fresh (archOf cfg inp dec)) ops).1
        (.contigLength smp.name ctg.name)).2
      = .ok (.nat ctg.data.length) := by
  have hwf := Ragc.ReaderLink.archOf_wf cfg inp dec hdec
  have hinv := Ragc.ReaderState.inv_run (archOf cfg inp dec) hwf ops _ (Ragc.ReaderState.inv_fresh _)
  obtain ⟨segs, hd, hc⟩ :=
    written_contig cfg inp dec (Ragc.WriterLemmas.decOK_of cfg inp dec hdec) hcodes hpl hnd smp hs ctg hc
  rw [← hc.full]
  exact ⟨(Ragc.ReaderState.step_spec _ _ _ hwf hinv).1.trans
      (handle_range_eq _ _ _ start end_ segs hd hc.loads hc.wf).2,
    (Ragc.ReaderState.step_spec _ _ _ hwf hinv).1.trans
      (handle_length_eq _ _ _ segs hd hc.wf (fun v hv => Nat.lt_trans (hc.raw32 v hv) (by decide))
        (hc.full ▸ Nat.lt_trans hc.len32 (by decide)))⟩

-- Non-vacuity on the input of `read_write`'s example (hypotheses by `decide`; `min_match_len = 10`):
-- a range across the junction of the two pieces of `A/c` (lengths 6 and 7, overlap 3; the second
-- stored reverse-complemented), after a history.
example :
    let A := archOf Ex.cfg Ex.inp Ex.dec
    let st := (Ragc.ReaderState.run A (Ragc.ReaderState.fresh A) Ex.hist).1
    (Ragc.ReaderState.step A st (.contigRange [65] [99] 4 9)).2 = .ok (.bases [0, 1, 2, 3, 0]) ∧
    (Ragc.ReaderState.step A st (.contigRange [65] [99] 8 100)).2 = .ok (.bases [0, 1]) ∧
    (Ragc.ReaderState.step A st (.contigLength [65] [99])).2 = .ok (.nat 10) ∧
    (Ragc.ReaderState.step A st (.contigLength [65] [100])).2 = .ok (.nat 3) := by
  have h := fun ctg hc => range_on_written_archive_planned Ex.cfg Ex.inp Ex.dec Ex.hyps.1 Ex.hyps.2.1
    (planned_of_minMatch _ _ _ (Ragc.WriterLemmas.decOK_of _ _ _ Ex.hyps.1) (by decide))
    Ex.hyps.2.2.1 Ex.hist ⟨[65], [⟨[99], [0, 1, 2, 3, 0, 1, 2, 3, 0, 1]⟩, ⟨[100], [2, 4, 1]⟩]⟩ (by decide) ctg hc
  exact ⟨(h ⟨[99], [0, 1, 2, 3, 0, 1, 2, 3, 0, 1]⟩ (by decide) 4 9).1,
    (h ⟨[99], [0, 1, 2, 3, 0, 1, 2, 3, 0, 1]⟩ (by decide) 8 100).1,
    (h ⟨[99], [0, 1, 2, 3, 0, 1, 2, 3, 0, 1]⟩ (by decide) 0 0).2,
    (h ⟨[100], [2, 4, 1]⟩ (by decide) 0 0).2⟩

/-- **`range_on_written_archive`**: the same under the writer-side hypotheses of
`Props.C01.read_write` (`DecisionsOK`, `codesOK`, `writeArchive … = some bs`) and `NamesDistinct`. -/
theorem range_on_written_archive (cfg : Ragc.Writer.Cfg) (inp : List Ragc.Writer.Sample)
    (dec : Ragc.Writer.Decisions) (zc : Nat → List Nat → List Nat) (bs : List Nat)
    (hdec : Ragc.Writer.DecisionsOK cfg inp dec) (hcodes : Ragc.Writer.codesOK inp)
    (hw : Ragc.Writer.writeArchive cfg inp dec zc = some bs) (hnd : NamesDistinct inp)
    (ops : List Ragc.ReaderState.Op) (smp : Ragc.Writer.Sample) (hs : smp ∈ inp)
    (ctg : Ragc.Writer.Contig) (hc : ctg ∈ smp.contigs) (start end_ : Nat) :
    (Ragc.ReaderState.step (archOf cfg inp dec)
        (Ragc.ReaderState.run (archOf cfg inp dec) (Ragc.ReaderState.fresh (archOf cfg inp dec)) ops).1
        (.contigRange smp.name ctg.name start end_)).2
      = .ok (.bases ((ctg.data.drop start).take (min end_ ctg.data.length - start))) ∧
    (Ragc.ReaderState.step (archOf cfg inp dec)
        (Ragc.ReaderState.run (archOf cfg inp dec) (Ragc.ReaderState.fresh (archOf cfg inp dec)) ops).1
        (.contigLength smp.name ctg.name)).2
      = .ok (.nat ctg.data.length) :=
  range_on_written_archive_planned cfg inp dec hdec hcodes (planned_of_writeArchive cfg inp dec zc bs hw) hnd
    ops smp hs ctg hc start end_

-- Non-vacuity of "the writer answers" on the same input (`Ex.written`: closed evaluation of the executable
-- model, not a step of any theorem); then the theorem applies.
set_option maxRecDepth 100000 in
example : ∃ bs, Ragc.Writer.writeArchive Ex.cfg Ex.inp Ex.dec Ex.zc = some bs ∧
    (Ragc.ReaderState.step (archOf Ex.cfg Ex.inp Ex.dec)
      (Ragc.ReaderState.run (archOf Ex.cfg Ex.inp Ex.dec) (Ragc.ReaderState.fresh (archOf Ex.cfg Ex.inp Ex.dec))
        Ex.hist).1 (.contigRange [66] [99] 2 5)).2 = .ok (.bases [2, 2, 0]) := by
  obtain ⟨bs, hbs⟩ := Ex.written
  exact ⟨bs, hbs, (range_on_written_archive Ex.cfg Ex.inp Ex.dec Ex.zc bs Ex.hyps.1 Ex.hyps.2.1 hbs
    Ex.hyps.2.2.1 Ex.hist ⟨[66], [⟨[99], [0, 1, 2, 2, 0, 1, 2, 3, 0, 1]⟩]⟩ (by decide)
    ⟨[99], [0, 1, 2, 2, 0, 1, 2, 3, 0, 1]⟩ (by decide) 2 5).1⟩

/-- Adjacent ranges on a written archive concatenate, after any two histories (even on two
different handles): `[a,b) ++ [b,c) = [a,c)`. -/
theorem range_concat_on_written_archive (cfg : Ragc.Writer.Cfg) (inp : List Ragc.Writer.Sample)
    (dec : Ragc.Writer.Decisions) (zc : Nat → List Nat → List Nat) (bs : List Nat)
    (hdec : Ragc.Writer.DecisionsOK cfg inp dec) (hcodes : Ragc.Writer.codesOK inp)
    (hw : Ragc.Writer.writeArchive cfg inp dec zc = some bs) (hnd : NamesDistinct inp)
    (ops₁ ops₂ ops₃ : List Ragc.ReaderState.Op) (smp : Ragc.Writer.Sample) (hs : smp ∈ inp)
    (ctg : Ragc.Writer.Contig) (hc : ctg ∈ smp.contigs) (a b c : Nat) (hab : a ≤ b) (hbc : b ≤ c) :
    ∃ x y,
      (Ragc.ReaderState.step (archOf cfg inp dec)
        (Ragc.ReaderState.run (archOf cfg inp dec) (Ragc.ReaderState.fresh (archOf cfg inp dec)) ops₁).1
        (.contigRange smp.name ctg.name a b)).2 = .ok (.bases x) ∧
      (Ragc.ReaderState.step (archOf cfg inp dec)
        (Ragc.ReaderState.run (archOf cfg inp dec) (Ragc.ReaderState.fresh (archOf cfg inp dec)) ops₂).1
        (.contigRange smp.name ctg.name b c)).2 = .ok (.bases y) ∧
      (Ragc.ReaderState.step (archOf cfg inp dec)
        (Ragc.ReaderState.run (archOf cfg inp dec) (Ragc.ReaderState.fresh (archOf cfg inp dec)) ops₃).1
        (.contigRange smp.name ctg.name a c)).2 = .ok (.bases (x ++ y)) := by
  refine ⟨_, _, (range_on_written_archive cfg inp dec zc bs hdec hcodes hw hnd ops₁ smp hs ctg hc a b).1,
    (range_on_written_archive cfg inp dec zc bs hdec hcodes hw hnd ops₂ smp hs ctg hc b c).1, ?_⟩
  exact (range_on_written_archive cfg inp dec zc bs hdec hcodes hw hnd ops₃ smp hs ctg hc a c).1.trans
    (congrArg (fun r => Ragc.CollVarint.Res.ok (Ragc.ReaderState.Val.bases r)) (slice_adjacent_clamped ctg.data a b c hab hbc).symm)

example : (2 : Nat) ≤ 5 ∧ (5 : Nat) ≤ 9 ∧ Ragc.Writer.DecisionsOK Ex.cfg Ex.inp Ex.dec ∧
    Ragc.Writer.codesOK Ex.inp ∧ NamesDistinct Ex.inp := ⟨by decide, by decide, Ex.hyps.1, Ex.hyps.2.1, Ex.hyps.2.2.1⟩

end Handle

end Ragc.Props.C07
