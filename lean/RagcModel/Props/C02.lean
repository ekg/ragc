import RagcModel.Model.Agc3
import RagcModel.Model.Packs
import RagcModel.Model.StreamNames
import RagcModel.Lemmas.StreamNames
import RagcModel.Lemmas.Packs
import RagcModel.Lemmas.Agc3Names
import RagcModel.Props.C09
import RagcModel.Props.C12
import RagcModel.Lemmas.WriterBases
import RagcModel.Lemmas.WriterDir
import RagcModel.Lemmas.WriterMain
/-!
# C02 — archives conform to the AGC v3 format: an independent decoder agrees

The independent decoder is `Model/Agc3.lean` (normative constants as literals). It is *run* on
every archive the harness generates (`agc-frames` / `agc-decode`) and compared with the input and
with ragc's own reader; its `violations` list evaluates the addressing rules on the real bytes.

This file proves the layer facts that make those rules the right ones for what the writer does:
stream names (injective, `r`/`d`/fixed names never collide, the decoder's literal base-64 naming is
the writer's), the constants the format fixes (`constants_pinned`: regenerated from the sources on
every run, so a source change breaks the obligation), the pack layout and its splitter, the
id ↦ (pack, entry) addressing of `flush_pack_compress_only`, the metadata convention (from C12)
and LZ entries (from C09).

## The reference writer (`Model/Writer.lean`)

`Writer.writeArchive cfg inp dec zc` is a whole-archive model of the compressor, composed only from
the layer models, with every heuristic / scheduling choice as data (`Decisions`). It is TIED TO THE
REAL WRITER by the C02 harness: for every generated archive the decisions are read off the decoded
archive, the reference writer is run on the input, and its output must be the real file BYTE FOR
BYTE (`writer-check`, counter `writer_bytes_identical`). About it this file proves, for ALL
decisions: the container gives every part back, one group written and decoded, every registered
piece recovered by the get-segment path; the three middle stages of the end-to-end theorem as
statements of their own; `writer_conforms` (**every archive of the reference writer conforms**) and
`writer_output_accepted` (link to C14).

The end-to-end theorem `read_write` (decode ∘ write = id) is stated in `Props/C01.lean`.
-/
namespace Ragc.Props.C02
open Ragc.StreamNames Ragc.Packs Ragc.Agc3

/-- `x<base64 g>r` determines `g`. -/
theorem stream_name_injective (g g' : Nat) (h : refName g = refName g') : g = g' :=
  refName_inj g g' h

-- `intToBase64` is a well-founded recursion: only the kernel evaluates it
example : refName 16 = [120, 71, 114] ∧ refName 64 = [120, 48, 49, 114] := by
  decide +kernel

/-- `x<base64 g>d` determines `g`. -/
theorem delta_name_injective (g g' : Nat) (h : deltaName g = deltaName g') : g = g' :=
  deltaName_inj g g' h

example : deltaName 0 = [120, 48, 100] ∧ deltaName 4095 = [120, 35, 35, 100] := by
  decide +kernel

/-- A reference stream and a delta stream never share a name. -/
theorem ref_ne_delta (g g' : Nat) : refName g ≠ deltaName g' :=
  refName_ne_deltaName g g'

/-- Segment stream names never collide with a fixed stream name (all of which start with a
letter other than `x`). -/
theorem xname_not_fixed (g : Nat) : refName g ∉ fixedNames ∧ deltaName g ∉ fixedNames := by
  have hf : ∀ n ∈ fixedNames, n.head? ≠ some chX := by
    -- `toList_ofList` reads the characters off each literal; evaluation would decode its UTF-8
    -- bytes in the kernel, which is slow
    simp only [fixedNames, List.map]
    repeat rw [String.toList_ofList]
    decide
  exact ⟨fun h => hf _ h rfl, fun h => hf _ h rfl⟩

example : fixedNames.length = 7 := by decide

/-- The decoder's naming (literal digit table) is the writer's naming (`stream_naming.rs`). -/
theorem decoder_names_agree (g : Nat) :
    xName g .ref = refName g ∧ xName g .delta = deltaName g :=
  ⟨Ragc.WriterLemmas.xName_ref g, Ragc.WriterLemmas.xName_delta g⟩

example : xName 77 .ref = [120, 68, 49, 114] := by
  decide +kernel

/-- The decoder parses every canonical stream name back to its group and kind (so the `stream-name`
rule `name = xName (parse name)` accepts exactly the names the writer can produce). -/
theorem decoder_parses_names (g : Nat) (kd : Kind) : parseXName (xName g kd) = some (g, kd) :=
  parseXName_xName g kd

example : parseXName [120, 68, 49, 100] = some (77, .delta) := by decide

/-- The decoder fetches parts from an array copy of the file; for every part inside the file (the
directory check of `openBytesFixed`) this is `Container.readPartData`, the reader of C13. -/
theorem part_reader_agrees (file : List Nat) (p : Ragc.Container.Part)
    (hfit : p.off + p.size ≤ file.length) (hseek : p.off ≤ Ragc.Agc3.seekMax) (b : Ragc.Container.Blob) :
    readPartA file.toArray p = .ok b ↔
      Ragc.Container.readPartData Ragc.Container.readVarintFixed Ragc.Agc3.seekMax file p = .ok b :=
  readPartA_eq file p hfit hseek b

example : readPartA [9, 1, 7, 65, 66, 9].toArray ⟨1, 2⟩ = .ok ([65, 66], 7) := by rfl

/-- Every constant the format fixes, regenerated from the sources on every run
(`tools/gen_tables.py`), equals the normative literal hard-wired in the independent decoder (or,
for the LZ text and the tuple tables, in the codec models the decoder composes). -/
theorem constants_pinned :
    Ragc.Gen.contigSeparator = 255 ∧ Ragc.Gen.contigSeparator = Ragc.Agc3.separator ∧
    Ragc.Gen.packCardinalityWriter = [Ragc.Agc3.packCard, Ragc.Agc3.packCard] ∧
    Ragc.Gen.packCardinalityReader = [Ragc.Agc3.packCard] ∧ Ragc.Agc3.packCard = 50 ∧
    Ragc.Gen.noRawGroupsWriter = [Ragc.Agc3.noRawGroups] ∧
    Ragc.Gen.noRawGroupsReader = [Ragc.Agc3.noRawGroups] ∧ Ragc.Agc3.noRawGroups = 16 ∧
    Ragc.Gen.agcFileMajor = Ragc.Agc3.versionMajor ∧ Ragc.Gen.agcFileMinor = Ragc.Agc3.versionMinor ∧
    Ragc.Agc3.versionMajor = 3 ∧ Ragc.Agc3.versionMinor = 0 ∧
    Ragc.Gen.lzNCode = 4 ∧ Ragc.Gen.lzNRunStarter = 30 ∧ Ragc.Gen.lzMinNRunLen = 4 ∧
    Ragc.Gen.lzHashingStep = 4 ∧
    Ragc.Gen.tuplePackCases = [(4, 4, 4), (6, 3, 6), (16, 2, 16)] ∧
    Ragc.Gen.tupleUnpackCases = [(2, 2, 16), (3, 3, 6), (4, 4, 4)] ∧
    Ragc.Gen.tupleVerbatimMarker = 0x10 ∧ Ragc.Gen.tupleEmptyMarker = 0x10 ∧
    Ragc.Gen.b64Digits = Ragc.Agc3.b64 ∧
    Ragc.Agc3.b64 = "0123456789ABCDEFGHIJKLMNOPQRSTUVWXYZabcdefghijklmnopqrstuvwxyz_#".toList.map Char.toNat ∧
    Ragc.Packs.sep = Ragc.Agc3.separator ∧ Ragc.Packs.placeholderEntry = [Ragc.Agc3.placeholder] ∧
    Ragc.Agc3.placeholder = 0x7f := by
  -- the characters of the literal by `toList_ofList`, not by decoding its UTF-8 bytes in the kernel
  rw [String.toList_ofList]
  decide +kernel

/-- The decoder's splitter applied to the writer's pack (every entry followed by `0xFF`) returns
entry `i`, provided no entry contains `0xFF` (see `lz_entry_decodes` for LZ entries; raw entries
are base codes `≤ 30`). -/
theorem unpack_pack (es : List (List Nat)) (i : Nat) (h : ∀ e ∈ es, 255 ∉ e) (hi : i < es.length) :
    unpackEntry (packEntries es) i = some es[i] := by
  unfold unpackEntry
  rw [splitPack_packEntries es h]
  simp [hi]

example : unpackEntry (packEntries [[65, 66], [], [48, 46]]) 2 = some [48, 46] :=
  unpack_pack _ _ (by decide) (by decide)
example : packEntries [[65, 66], [], [48, 46]] = [65, 66, 255, 255, 48, 46, 255] := by decide

/-- Nothing is left over after the last separator and nothing is invented: the splitter returns
exactly the entries. -/
theorem split_pack (es : List (List Nat)) (h : ∀ e ∈ es, 255 ∉ e) :
    splitPack (packEntries es) = (es.toArray, []) :=
  splitPack_packEntries es h

/-- First pack of a raw group: entry 0 is the placeholder, entry `i + 1` is the `i`-th delta. -/
theorem unpack_pack_raw (es : List (List Nat)) (i : Nat) (h : ∀ e ∈ es, 255 ∉ e) (hi : i < es.length) :
    unpackEntry (packEntriesRaw es) 0 = some [Ragc.Agc3.placeholder] ∧
      unpackEntry (packEntriesRaw es) (i + 1) = some es[i] := by
  have h' : ∀ e ∈ placeholderEntry :: es, 255 ∉ e := List.forall_mem_cons.mpr ⟨by decide, h⟩
  unfold packEntriesRaw
  constructor
  · rw [unpack_pack _ 0 h' (by simp)]; rfl
  · rw [unpack_pack _ (i + 1) h' (by simp; omega)]; simp

example : unpackEntry (packEntriesRaw [[0, 1, 2], [3]]) 0 = some [127] ∧
    unpackEntry (packEntriesRaw [[0, 1, 2], [3]]) 2 = some [3] :=
  unpack_pack_raw _ 1 (by decide) (by decide)

/-- **Addressing.** Run the bookkeeping of `flush_pack_compress_only` over ANY sequence of deltas
`ds` (empty ones and repeats included, over any number of calls), then the final partial flush of
`finalize`. For the id handed to the `j`-th delta:

* LZ group: either the id is 0 and the delta is empty (the segment is the reference), or
  `id ≥ 1` and entry `(id-1) % 50` of pack `(id-1) / 50` is the delta;
* raw group: `id ≥ 1`, entry `id % 50` of pack `id / 50` is the delta and entry 0 of pack 0 is the
  placeholder;

and every pack but the last holds exactly 50 entries (`Filled`), the last between 1 and 50. The
decoder's `entryAddress` is this rule. -/
theorem packs_addressing (lz : Bool) (ds : List (List Nat)) :
    let r := assignAll lz PState.init ds
    let packs := finish lz r.1
    Filled 50 packs ∧
    (∀ p, p + 1 < packs.length → ∃ pk, packs[p]? = some pk ∧ pk.length = 50) ∧
    ∀ j (hj : j < ds.length),
      let id := r.2.getD j 0
      (lz = true ∧ id = 0 ∧ ds[j] = []) ∨
      (1 ≤ id ∧
        entryAt packs (entryAddress (if lz then 16 else 0) id).1 (entryAddress (if lz then 16 else 0) id).2
          = some ds[j] ∧
        (lz = false → entryAt packs 0 0 = some [Ragc.Agc3.placeholder])) :=
  have h := run_addressing lz (if lz then 16 else 0) (by cases lz <;> decide) ds
  ⟨h.1, fun p hp => filled_nonfinal 50 _ p h.1 hp, fun j hj => (h.2.2 j hj).imp id fun h3 =>
    ⟨h3.1, h3.2, fun hlz => h.2.1 hlz (List.ne_nil_of_length_pos (Nat.zero_lt_of_lt hj))⟩⟩

-- 120 distinct deltas in an LZ group: three packs (50, 50, 20); id 101 is entry 0 of pack 2
set_option maxRecDepth 20000 in
example :
    let ds := (List.range 120).map (fun i => [i])
    let r := assignAll true PState.init ds
    (finish true r.1).map List.length = [50, 50, 20] ∧ r.2.getD 100 0 = 101 ∧
      entryAt (finish true r.1) 2 0 = some [100] := by
  decide +kernel
-- raw group: 60 deltas, packs of (placeholder + 49) and 11; id 50 is entry 0 of pack 1
set_option maxRecDepth 20000 in
example :
    let ds := (List.range 60).map (fun i => [i])
    let r := assignAll false PState.init ds
    (finish false r.1).map List.length = [50, 11] ∧ r.2.getD 49 0 = 50 ∧
      entryAt (finish false r.1) 1 0 = some [49] ∧ entryAt (finish false r.1) 0 0 = some [127] := by
  decide +kernel
-- empty delta ⇒ id 0, repeated pending delta ⇒ same id
example : (assignAll true PState.init [[7], [], [8], [7]]).2 = [1, 0, 2, 1] := by decide

/-- The writer keeps the compressed form (`compressed ++ [marker]`, metadata = raw size) only when
it is strictly shorter than the raw bytes, otherwise it stores the raw bytes with metadata 0.
So: metadata 0 ⇔ stored raw; otherwise metadata = unpacked size ≠ 0 and the last byte is the
marker; and the reader's branch on the metadata (`unframePart`) returns the raw bytes in both
cases. `hdec` is the codec round trip of C12 (`ref_roundtrip`, `pack_roundtrip`). -/
theorem metadata_convention (zd : List Nat → Option (List Nat)) (compressed : List Nat) (marker : Nat)
    (raw : List Nat) (hdec : Ragc.SegCompress.decompressWithMarker zd compressed marker = some raw) :
    let p := Ragc.SegCompress.framePart compressed marker raw
    (p.2 = 0 → p.1 = raw) ∧
    (p.2 ≠ 0 → p.2 = raw.length ∧ p.1 = compressed ++ [marker] ∧ p.1.length < raw.length) ∧
    Ragc.SegCompress.unframePart zd p.1 p.2 = some raw := by
  refine ⟨?_, ?_, Ragc.SegCompress.unframe_frame zd compressed marker raw hdec⟩
  · -- metadata 0 with the compressed form kept would make `raw` empty, yet longer than the frame
    simp only [Ragc.SegCompress.framePart]
    split
    · intro h0; omega
    · intro _; rfl
  · simp only [Ragc.SegCompress.framePart]
    split
    · rename_i hl; exact fun _ => ⟨rfl, rfl, hl⟩
    · exact fun h => absurd rfl h

/-- The convention for the two kinds of stored parts, with the ZSTD hypotheses of C12. -/
theorem metadata_convention_parts (zc : Nat → List Nat → List Nat) (zd : List Nat → Option (List Nat))
    (hz : ∀ l x, zd (zc l x) = some x) (hne : ∀ l x, zc l x = [] → x = [])
    (chooser : List Nat → Bool) (level : Nat) (x : List Nat) :
    let r := Ragc.SegCompress.storeReference zc chooser x
    let p := Ragc.SegCompress.storePack zc level x
    (r.2 = 0 → r.1 = x) ∧ (r.2 ≠ 0 → r.2 = x.length) ∧ Ragc.SegCompress.unframePart zd r.1 r.2 = some x ∧
    (p.2 = 0 → p.1 = x) ∧ (p.2 ≠ 0 → p.2 = x.length) ∧ Ragc.SegCompress.unframePart zd p.1 p.2 = some x := by
  intro r p
  have hr := metadata_convention zd _ _ x (Ragc.Props.C12.ref_roundtrip_chooser zc zd hz hne chooser x)
  have hp := metadata_convention zd _ _ x (Ragc.Props.C12.pack_roundtrip zc zd hz hne level x)
  exact ⟨hr.1, fun h => (hr.2.1 h).1, hr.2.2, hp.1, fun h => (hp.2.1 h).1, hp.2.2⟩

example : Ragc.SegCompress.framePart [9, 9] 1 [0, 1, 2, 3] = ([9, 9, 1], 4) ∧
    Ragc.SegCompress.framePart [9, 9, 9] 0 [0, 1, 2, 3] = ([0, 1, 2, 3], 0) := by decide

/-- An LZ entry (the writer's `lz_diff.encode(seg)` against the group reference) decodes, with the
reader's empty-means-reference rule, to the registered segment; it is empty exactly when the
segment equals the reference (the id-0 case of `packs_addressing`); and it contains no `0xFF`, so
packs of LZ entries are splittable (`unpack_pack`). For every candidate supplier (in particular
the real index), every accepted `min_match_len`, every reference, every non-empty segment over
the decoder's literal codes. -/
theorem lz_entry_decodes (S : UInt64 → List Nat) (mm : Nat) (ref seg enc : List Nat)
    (hc : Ragc.Props.C09.codesOK seg) (hne : seg ≠ [])
    (henc : Ragc.Model.LzDiff.encode S mm ref seg = some enc) :
    Ragc.Model.LzDiff.decodeSeg mm ref enc = some seg ∧ (enc = [] ↔ seg = ref) ∧ 255 ∉ enc := by
  refine ⟨Ragc.Props.C09.lz_roundtrip S mm ref seg enc hc hne henc, ?_, ?_⟩
  · rw [Ragc.Props.C09.encode_empty_iff S mm ref seg enc henc]
    simp [hne]
  · exact Ragc.Props.C09.no_separator S mm ref seg enc
      (fun c hcm => Nat.lt_of_le_of_lt (hc c hcm) (by decide)) henc

example : Ragc.Props.C09.codesOK [0, 1, 3, 3, 0, 1, 2, 3, 2, 2] ∧ [0, 1, 3, 3, 0, 1, 2, 3, 2, 2] ≠ [] := by
  decide

/-- A pack of LZ entries, written and read back: entry `i` decodes to segment `i`. -/
theorem lz_pack_entry_decodes (S : UInt64 → List Nat) (mm : Nat) (ref : List Nat)
    (segs : List (List Nat)) (encs : List (List Nat))
    (hlen : encs.length = segs.length)
    (hall : ∀ i (h : i < segs.length), Ragc.Props.C09.codesOK segs[i] ∧ segs[i] ≠ [] ∧
      Ragc.Model.LzDiff.encode S mm ref segs[i] = some (encs[i]'(by omega)))
    (i : Nat) (hi : i < segs.length) :
    (unpackEntry (packEntries encs) i).bind (Ragc.Model.LzDiff.decodeSeg mm ref) = some segs[i] := by
  have hno : ∀ e ∈ encs, 255 ∉ e := by
    intro e he
    obtain ⟨j, hj, rfl⟩ := List.getElem_of_mem he
    obtain ⟨hc, hne, henc⟩ := hall j (by omega)
    exact (lz_entry_decodes S mm ref _ _ hc hne henc).2.2
  rw [unpack_pack encs i hno (by omega)]
  obtain ⟨hc, hne, henc⟩ := hall i hi
  simp only [Option.bind_some]
  exact (lz_entry_decodes S mm ref _ _ hc hne henc).1

open Ragc.Writer Ragc.WriterLemmas in
/-- **The container gives every part back.** For ANY list of distinct stream names without NUL
and ANY list of parts buffered under those names (metadata `u64`), the file written by the history
"register all, buffer all, ONE flush, close" (`Writer.archiveOps`, what `create` does) is opened
by the decoder; its directory lists the names in registration order; and every stream reads back
exactly the parts buffered under its name, in buffering order (`partsOf`: empty parts lose their
metadata, archive.rs 301-303). Physical side condition: the file is shorter than `2^63`.
Composition of C13 (`rel_run`, `flush_commits_per_stream`, `openBytesFixed_close`) with
`part_reader_agrees`. -/
theorem container_returns_every_part (names : List (List Nat)) (parts : List (List Nat × Ragc.Container.Blob))
    (hnd : names.Nodup) (h0 : 0 < names.length) (hnul : ∀ n ∈ names, ∀ b ∈ n, b ≠ 0)
    (hin : ∀ nb ∈ parts, nb.1 ∈ names) (hmd : ∀ nb ∈ parts, nb.2.2 < 2 ^ 64)
    (hlen : (Ragc.Container.close (Ragc.Container.run (archiveOps names parts))).length ≤ Ragc.Agc3.seekMax) :
    ∃ o, openArchive (Ragc.Container.close (Ragc.Container.run (archiveOps names parts))) = .ok o ∧
      o.dir.map (·.name) = names ∧
      ∀ st ∈ o.dir, Ragc.Agc3.readParts o.file st = .ok (partsOf parts st.name) :=
  archive_opens names parts hnd hnul hin hmd hlen

example :
    let names := [[97], [120, 71, 100]]
    let parts : List (List Nat × Ragc.Container.Blob) := [([120, 71, 100], ([1, 2], 5)), ([97], ([], 9)), ([120, 71, 100], ([3], 0))]
    names.Nodup ∧ (∀ nb ∈ parts, nb.1 ∈ names) ∧
      Ragc.WriterLemmas.partsOf parts [120, 71, 100] = [([1, 2], 5), ([3], 0)] ∧
      Ragc.WriterLemmas.partsOf parts [97] = [([], 0)] := by decide

open Ragc.Writer Ragc.WriterLemmas in
/-- **One group, written and decoded.** Take ANY group decision `G` (raw or LZ, any tuple flag) and
ANY member data in ANY arrival order (non-empty, over the literal codes). If the planner answers
(`planGroup`: it does whenever `min_match_len ≥ 4`, C09 `encode_total`), then the decoder's
`decodeGroup` on the group's two streams as `storeGroup` writes them — reference by
`storeReference`, packs by `storePack ∘ packEntries` — returns the SAME violation accumulator
(none of: duplicate-stream, one-reference-part, raw-group-with-reference, part-undecodable,
metadata-size, pack-no-final-separator, pack-cardinality, raw-placeholder fires) and a decoded
group that holds exactly the plan's reference and pack entries. Any ZSTD with the two facts of C12. -/
theorem group_roundtrip (zc : Nat → List Nat → List Nat) (zd : List Nat → Option (List Nat))
    (hz : ∀ l x, zd (zc l x) = some x) (hne : ∀ l x, zc l x = [] → x = [])
    (cfg : Cfg) (G : GroupDec) (datas : List (List Nat)) (P : GroupPlan)
    (hplan : planGroup cfg.minMatch G datas = some P)
    (hc : ∀ d ∈ datas, d ≠ [] ∧ Ragc.Props.C09.codesOK d) (a : Acc) (out : Array GroupD) :
    ∃ GD, decodeGroup zd (a, out)
        ⟨P.id, 1, 1, (storeGroup cfg zc G.tuples P).refPart.toList, (storeGroup cfg zc G.tuples P).packs⟩
          = (a, out.push GD) ∧ GDMatches GD P :=
  ⟨_, decodeGroup_plan zc zd hz hne cfg G.tuples P (planGroup_spec cfg.minMatch G datas P hplan hc).2.1 a out,
    gdOf_matches cfg zc G.tuples P⟩

open Ragc.Writer Ragc.WriterLemmas in
/-- **Every registered piece is recovered by the decoder's get-segment path.** For ANY group
decision and ANY member data in ANY arrival order: member `j` gets the in-group id `P.ids[j]`
(0 exactly for the reference and for members equal to it; ids reused inside a pending pack), the
id is at most the number of members, and for every group table `gds` in which the decoder finds a
group holding the plan's content (`group_roundtrip`), `getSegment` on the descriptor
`(G.id, P.ids[j], rev, len)` the writer registers returns the member's data — through
`entryAddress`, the pack splitter and, for LZ groups, `LzDiff.decodeSeg` against the reference.
Composition of `packs_addressing` with C09. -/
theorem read_write_segments (mm : Nat) (G : GroupDec) (datas : List (List Nat)) (P : GroupPlan)
    (hplan : planGroup mm G datas = some P)
    (hc : ∀ d ∈ datas, d ≠ [] ∧ Ragc.Props.C09.codesOK d)
    (gds : Array GroupD) (GD : GroupD) (hf : Ragc.Agc3.findGroup gds G.id = some GD) (hm : GDMatches GD P)
    (j : Nat) (hj : j < datas.length) (rev : Bool) (len : Nat) :
    P.ids.length = datas.length ∧ P.ids.getD j 0 ≤ datas.length ∧
      getSegment mm gds ⟨G.id, P.ids.getD j 0, rev, len⟩ = .ok datas[j] := by
  obtain ⟨hid, _, hl, hseg⟩ := planGroup_spec mm G datas P hplan hc
  refine ⟨hl, (hseg j hj).1, ?_⟩
  rw [← hid]
  exact getSegment_plan mm gds P GD _ _ rev len (by rw [hid]; exact hf) hm (hseg j hj).2

-- a raw group with three members, the third equal to the first (id reuse in the pending pack)
example : Ragc.Writer.planGroup 5 ⟨3, false, []⟩ [[0, 1, 2], [3], [0, 1, 2]]
    = some ⟨3, none, [[[127], [0, 1, 2], [3]]], [1, 2, 1]⟩ := by decide
-- an LZ group whose only member is its reference
example : Ragc.Writer.planGroup 5 ⟨16, true, []⟩ [[0, 1, 2, 3]] = some ⟨16, some [0, 1, 2, 3], [], [0]⟩ := by decide

open Ragc.Writer Ragc.WriterLemmas in
/-- **Stage 1 — the container.** For the bytes `bs` of the reference writer (any well-formed
decisions): the decoder opens `bs`, the directory lists `Writer.regNames dec` (the seven fixed
streams, then `x…d`, `x…r` per group in creation order) and every stream reads back exactly the
parts `Writer.partList` buffered under its name. -/
theorem read_write_container (cfg : Cfg) (inp : List Sample) (dec : Decisions)
    (zc : Nat → List Nat → List Nat) (bs : List Nat) (hdec : DecisionsOK cfg inp dec)
    (hw : writeArchive cfg inp dec zc = some bs) :
    ∃ outs o, writeGroups cfg zc (storedAll cfg.k inp dec) dec.groups = some outs ∧
      openArchive bs = .ok o ∧
      Opens o (regNames dec) (partList cfg zc inp outs
        (Ragc.Details.storeBatches cfg.segSize cfg.k 50 (catalogue inp dec outs))) := by
  obtain ⟨outs, o, hwg, _, hopen, hO⟩ := written_opens cfg inp dec zc bs (decOK_of cfg inp dec hdec) hw
  exact ⟨outs, o, hwg, hopen, hO⟩

open Ragc.Writer Ragc.WriterLemmas in
/-- **Stage 2 — the catalogue.** On an opened archive that returns the reference writer's parts
(`read_write_container`), `decodeCatalogue` returns the violation accumulator UNCHANGED
(collection-metadata, collection-batches), the sample names of the input, and per sample the table
`contig name ↦ descriptors` of the writer's catalogue — over any number of 50-sample batches.
Composition of C03 `sample_names_roundtrip`, `names_roundtrip`, `details_roundtrip` with the part
layout of `store_contig_batch`. -/
theorem read_write_catalogue (zc : Nat → List Nat → List Nat) (zd : List Nat → Option (List Nat))
    (hz : ∀ l x, zd (zc l x) = some x) (hne : ∀ l x, zc l x = [] → x = [])
    (cfg : Cfg) (inp : List Sample) (dec : Decisions) (bs : List Nat) (hdec : DecisionsOK cfg inp dec)
    (hcodes : codesOK inp) (hw : writeArchive cfg inp dec zc = some bs) (a : Acc) :
    ∃ outs o, openArchive bs = .ok o ∧
      decodeCatalogue zd o cfg.k cfg.segSize a = .ok (a, inp.map (·.name),
        (List.zipWith (fun s dcs => tableOf outs s.contigs dcs) inp dec.pieces).toArray,
        (Ragc.Details.storeBatches cfg.segSize cfg.k 50 (catalogue inp dec outs)).length) := by
  have hok := decOK_of cfg inp dec hdec
  obtain ⟨outs, o, hwg, hfit, hopen, hO⟩ := written_opens cfg inp dec zc bs hok hw
  exact ⟨outs, o, hopen, decodeCatalogue_ok zc zd hz hne cfg dec inp outs o hok hcodes hwg hO hfit a⟩

open Ragc.Writer Ragc.WriterLemmas in
/-- **Stage 3 — the groups.** On the same opened archive, `decodeGroups` returns the violation
accumulator UNCHANGED (stream-name, duplicate-stream, one-reference-part, raw-group-with-reference,
part-undecodable, metadata-size, pack-no-final-separator, pack-cardinality, raw-placeholder) and a
group table in which, for every group, `findGroup` finds a group holding that group's plan
(`GDMatches`); every decoded group is one of the decisions' groups. `group_roundtrip` folded over
the directory (`xStreams`, `addStream`). -/
theorem read_write_groups (zc : Nat → List Nat → List Nat) (zd : List Nat → Option (List Nat))
    (hz : ∀ l x, zd (zc l x) = some x) (hne : ∀ l x, zc l x = [] → x = [])
    (cfg : Cfg) (inp : List Sample) (dec : Decisions) (bs : List Nat) (hdec : DecisionsOK cfg inp dec)
    (hcodes : codesOK inp) (hw : writeArchive cfg inp dec zc = some bs) (a : Acc) :
    ∃ o gds, openArchive bs = .ok o ∧ decodeGroups zd o a = .ok (a, gds) ∧ GroupsDecoded cfg inp dec gds := by
  obtain ⟨outs, o, hwg, hopen, hO⟩ := read_write_container cfg inp dec zc bs hdec hw
  obtain ⟨gds, h1, h2⟩ := decodeGroups_ok zc zd hz hne cfg inp dec outs _ o (decOK_of cfg inp dec hdec) hcodes hwg hO a
  exact ⟨o, gds, hopen, h1, h2⟩

open Ragc.Writer Ragc.WriterLemmas in
/-- **Every archive of the reference writer conforms to the format.** All decisions, all inputs
over the literal codes, any ZSTD with the two C12 facts: the independent decoder reads the bytes,
finds the parameters that were given, and its list of breached format rules is EMPTY. (The real
writer is an instance of the reference writer on every generated archive: C02 harness, byte
identity.) -/
theorem writer_conforms (cfg : Cfg) (inp : List Sample) (dec : Decisions)
    (zc : Nat → List Nat → List Nat) (zd : List Nat → Option (List Nat)) (bs : List Nat)
    (hdec : DecisionsOK cfg inp dec) (hz : ∀ l x, zd (zc l x) = some x) (hne : ∀ l x, zc l x = [] → x = [])
    (hcodes : codesOK inp) (hw : writeArchive cfg inp dec zc = some bs) :
    ∃ d, decodeArchive bs zd = .ok d ∧ d.violations = [] ∧
      d.k = cfg.k ∧ d.mm = cfg.minMatch ∧ d.segSize = cfg.segSize := by
  obtain ⟨d, h1, _, _, h4, h5, h6, h7⟩ := read_write_main cfg inp dec zc zd bs hdec hz hne hcodes hw
  exact ⟨d, h1, h4, h5, h6, h7⟩

open Ragc.Writer Ragc.WriterLemmas in
/-- **C14 link.** Whatever the decisions (no `DecisionsOK` needed), the bytes the reference writer
returns are accepted by the repaired container reader `openBytesFixed` (footer-size and
part-range checks) and every part of the directory lies inside the file. -/
theorem writer_output_accepted (cfg : Cfg) (inp : List Sample) (dec : Decisions)
    (zc : Nat → List Nat → List Nat) (bs : List Nat) (hw : writeArchive cfg inp dec zc = some bs) :
    ∃ r, Ragc.Container.openBytesFixed Ragc.Agc3.seekMax bs = .ok r ∧ r.file = bs ∧
      Ragc.Container.partsInFile bs.length r.dir = true :=
  writer_output_opens cfg inp dec zc bs hw

end Ragc.Props.C02
