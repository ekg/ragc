import RagcModel.Lemmas.Tuple
import RagcModel.Lemmas.SegCompress
import RagcModel.Gen.Tables
/-!
C12 — segment and pack compression is lossless for every byte string.

Models: `Model/Tuple.lean` (tuple_packing.rs), `Model/SegCompress.lean` (segment_compression.rs
and the stored-part framing). ZSTD is a parameter pair `zc`/`zd` with the two facts the proofs use
stated as hypotheses:

* `hz  : ∀ l x, zd (zc l x) = some x`      (ZSTD round trip),
* `hne : ∀ l x, zc l x = [] → x = []`       (a ZSTD frame is never empty — it starts with a 4-byte
  magic number; needed because `decompress_segment_with_marker` answers `Ok(vec![])` for an empty
  input without calling ZSTD. Without it the statement is false for the model.)

Both are exercised on the real library by the C12 harness. The marker choice (repetitiveness test,
IEEE doubles) is universally quantified: no theorem mentions `Float`.
Only property theorems live here (helper lemmas are in `Lemmas/Tuple.lean`, `Lemmas/SegCompress.lean`).
-/
namespace Ragc.Props.C12
open Ragc.Tuple Ragc.SegCompress

/-- The constants the hand-written model hard-wires are the ones `tools/gen_tables.py` reads from
the current sources (dispatch of `bytes_to_tuples` / `tuples_to_bytes`, the two `0x10` markers, the
repetitiveness threshold and lag range). A change in the code breaks this obligation. -/
theorem constants_pinned :
    Ragc.Gen.tuplePackCases = [(4, 4, 4), (6, 3, 6), (16, 2, 16)] ∧
    Ragc.Gen.tupleUnpackCases = [(2, 2, 16), (3, 3, 6), (4, 4, 4)] ∧
    Ragc.Gen.tupleVerbatimMarker = 0x10 ∧ Ragc.Gen.tupleEmptyMarker = 0x10 ∧
    Ragc.Gen.segRepThreshold = (5, 10) ∧ Ragc.Gen.segRepOffsets = (4, 32) := by
  decide

/-- Why the table is sound: for every (bound, N, MAX) a full tuple fits one byte, every symbol
below the bound is a base-MAX digit, N fits the marker's high nibble next to widths 0/1, and the
decoder dispatches width N to the same base. -/
theorem tuple_tables_sound :
    ∀ c ∈ Ragc.Gen.tuplePackCases,
      c.2.2 ^ c.2.1 ≤ 256 ∧ c.1 ≤ c.2.2 ∧ 2 ≤ c.2.1 ∧ c.2.1 < 16 ∧
      (c.2.1, c.2.1, c.2.2) ∈ Ragc.Gen.tupleUnpackCases := by
  decide

example : (4, 4, 4) ∈ Ragc.Gen.tuplePackCases := by decide

/-- A ZSTD stand-in for the non-vacuity examples: the frame is the level byte followed by the data. -/
private def zcToy : Nat → List Nat → List Nat := fun l x => l :: x
private def zdToy : List Nat → Option (List Nat) := fun c => some c.tail

/-- Tuple packing round trip for ALL byte strings: all four symbol ranges, every length including
0 and every remainder modulo the tuple width, and both arithmetic profiles of the decoder. -/
theorem tuple_roundtrip_mode (checked : Bool) (bs : List Nat) :
    tuplesToBytesMode checked (bytesToTuples bs) = some bs :=
  tuplesToBytesMode_bytesToTuples checked bs

example : tuplesToBytesMode true (bytesToTuples [0, 1, 2, 3, 3, 2, 1]) = some [0, 1, 2, 3, 3, 2, 1] :=
  tuple_roundtrip_mode true _

/-- `tuples_to_bytes (bytes_to_tuples bs) = bs` for every byte string (release arithmetic, the
profile that ships). The byte bound is not even needed by the proof. -/
theorem tuple_roundtrip (bs : List Nat) (_h : ∀ b ∈ bs, b < 256) :
    tuplesToBytes (bytesToTuples bs) = some bs :=
  tuplesToBytesMode_bytesToTuples false bs

-- one witness per range and a non-zero remainder in each packed range
example : tuplesToBytes (bytesToTuples [3, 0, 1, 2, 3]) = some [3, 0, 1, 2, 3] :=
  tuple_roundtrip _ (by decide)
example : tuplesToBytes (bytesToTuples [5, 4, 0, 1]) = some [5, 4, 0, 1] :=
  tuple_roundtrip _ (by decide)
example : tuplesToBytes (bytesToTuples [15, 6, 9]) = some [15, 6, 9] :=
  tuple_roundtrip _ (by decide)
example : tuplesToBytes (bytesToTuples [16, 255, 0]) = some [16, 255, 0] :=
  tuple_roundtrip _ (by decide)
example : bytesToTuples [3, 0, 1, 2, 3] = [0xC6, 3, 0x41] := by
  simp [bytesToTuples, maxElem, packTuples, packLoop, tupleVal, markerByte]

/-- Tuple packing is injective (hence, with `tuple_roundtrip`, a bijection onto its image). -/
theorem tuple_injective (a b : List Nat) (h : bytesToTuples a = bytesToTuples b) : a = b := by
  have ha := tuplesToBytesMode_bytesToTuples false a
  have hb := tuplesToBytesMode_bytesToTuples false b
  rw [h, hb] at ha
  exact (Option.some.inj ha).symm

example : bytesToTuples [0, 0, 0, 0] ≠ bytesToTuples [0, 0, 0] := by
  simp [bytesToTuples, maxElem, packTuples, packLoop, tupleVal, markerByte]

/-- The packed form of a byte string is a byte string (`c as u8` never has to truncate: that is
part of `tuple_roundtrip`; this is the range statement). -/
theorem tuple_output_bytes (bs : List Nat) (h : ∀ b ∈ bs, b < 256) :
    ∀ t ∈ bytesToTuples bs, t < 256 :=
  bytesToTuples_lt bs h

example : ∀ t ∈ bytesToTuples [3, 3, 3, 3, 3], t < 256 := tuple_output_bytes _ (by decide)

/-- Overflow-checked and wrapping builds of `tuples_to_bytes` agree except on a lone marker byte … -/
theorem tuple_dec_profiles_agree (ts : List Nat) (h : ts.length ≠ 1) :
    tuplesToBytesMode true ts = tuplesToBytesMode false ts :=
  tuplesToBytesMode_eq_of_length_ne_one ts h

example : tuplesToBytesMode true [0x1b, 0x2f] = tuplesToBytesMode false [0x1b, 0x2f] :=
  tuple_dec_profiles_agree _ (by decide)

/-- … where they do differ (malformed input `[0x22]`: `1 - 2` in `usize` panics with overflow
checks, wraps to an empty result without). Not reachable from `bytes_to_tuples` output. -/
theorem tuple_dec_profiles_differ :
    tuplesToBytesMode true [0x22] = none ∧ tuplesToBytesMode false [0x22] = some [] := by
  decide

/-- Reference segments: for any ZSTD satisfying `hz`/`hne`, for EITHER outcome of the
repetitiveness test, `decompress_segment_with_marker` applied to the output of
`compress_reference_segment` (with the marker it returned) gives the input back. -/
theorem ref_roundtrip (zc : Nat → List Nat → List Nat) (zd : List Nat → Option (List Nat))
    (hz : ∀ l x, zd (zc l x) = some x) (hne : ∀ l x, zc l x = [] → x = [])
    (useTuples : Bool) (x : List Nat) :
    decompressWithMarker zd (compressRefWith zc useTuples x).1 (compressRefWith zc useTuples x).2
      = some x :=
  decompress_compressRefWith false zc zd hz hne useTuples x

example : decompressWithMarker zdToy (compressRefWith zcToy true [0, 1, 2, 3, 0]).1
    (compressRefWith zcToy true [0, 1, 2, 3, 0]).2 = some [0, 1, 2, 3, 0] :=
  ref_roundtrip zcToy zdToy (fun _ _ => rfl) (fun _ _ h => by simp [zcToy] at h) true _
example : compressRefWith zcToy true [0, 1, 2, 3, 0] = ([refTuplesLevel, 27, 0, 0x41], 1) := by
  simp [compressRefWith, zcToy, bytesToTuples, maxElem, packTuples, packLoop, tupleVal, markerByte]
example : compressRefWith zcToy false [0, 1, 2, 3, 0] = ([refPlainLevel, 0, 1, 2, 3, 0], 0) := rfl

/-- `ref_roundtrip` for a build with overflow checks (dev/test profile of `tuples_to_bytes`). -/
theorem ref_roundtrip_checked (zc : Nat → List Nat → List Nat) (zd : List Nat → Option (List Nat))
    (hz : ∀ l x, zd (zc l x) = some x) (hne : ∀ l x, zc l x = [] → x = [])
    (useTuples : Bool) (x : List Nat) :
    decompressWithMarkerMode (tuplesToBytesMode true) zd (compressRefWith zc useTuples x).1
      (compressRefWith zc useTuples x).2 = some x :=
  decompress_compressRefWith true zc zd hz hne useTuples x

example : decompressWithMarkerMode (tuplesToBytesMode true) zdToy (compressRefWith zcToy true [4, 5, 0]).1
    (compressRefWith zcToy true [4, 5, 0]).2 = some [4, 5, 0] :=
  ref_roundtrip_checked zcToy zdToy (fun _ _ => rfl) (fun _ _ h => by simp [zcToy] at h) true _

/-- The same with the decision procedure as a parameter (`compress_reference_segment` proper). -/
theorem ref_roundtrip_chooser (zc : Nat → List Nat → List Nat) (zd : List Nat → Option (List Nat))
    (hz : ∀ l x, zd (zc l x) = some x) (hne : ∀ l x, zc l x = [] → x = [])
    (chooser : List Nat → Bool) (x : List Nat) :
    decompressWithMarker zd (compressReferenceSegment zc chooser x).1
      (compressReferenceSegment zc chooser x).2 = some x :=
  decompress_compressRefWith false zc zd hz hne (chooser x) x

example : decompressWithMarker zdToy (compressReferenceSegment zcToy natChooser [0, 1, 0, 1, 0, 1]).1
    (compressReferenceSegment zcToy natChooser [0, 1, 0, 1, 0, 1]).2 = some [0, 1, 0, 1, 0, 1] :=
  ref_roundtrip_chooser zcToy zdToy (fun _ _ => rfl) (fun _ _ h => by simp [zcToy] at h) _ _

/-- Delta / raw packs: `decompress_segment_with_marker (compress_segment_configured x level) 0 = x`
for every level. -/
theorem pack_roundtrip (zc : Nat → List Nat → List Nat) (zd : List Nat → Option (List Nat))
    (hz : ∀ l x, zd (zc l x) = some x) (hne : ∀ l x, zc l x = [] → x = [])
    (level : Nat) (x : List Nat) :
    decompressWithMarker zd (compressSegmentConfigured zc level x) 0 = some x :=
  decompress_zc tuplesToBytes zc zd hz hne level x 0 id rfl

example : decompressWithMarker zdToy (compressSegmentConfigured zcToy 17 [7, 255, 0, 255]) 0
    = some [7, 255, 0, 255] :=
  pack_roundtrip zcToy zdToy (fun _ _ => rfl) (fun _ _ h => by simp [zcToy] at h) 17 _

/-- Stored reference part (marker pushed, raw fallback with metadata 0 when compression does not
help) read back by the decompressor's framing returns the segment, for either marker choice. -/
theorem stored_ref_roundtrip (zc : Nat → List Nat → List Nat) (zd : List Nat → Option (List Nat))
    (hz : ∀ l x, zd (zc l x) = some x) (hne : ∀ l x, zc l x = [] → x = [])
    (chooser : List Nat → Bool) (x : List Nat) :
    unframePart zd (storeReference zc chooser x).1 (storeReference zc chooser x).2 = some x := by
  unfold storeReference
  exact unframe_frame zd _ _ x (ref_roundtrip_chooser zc zd hz hne chooser x)

-- both framings occur: the toy "compressor" never helps on plain data (raw, metadata 0) …
example : storeReference zcToy (fun _ => false) [0, 1, 2, 3, 0, 1, 2, 3, 0] = ([0, 1, 2, 3, 0, 1, 2, 3, 0], 0) :=
  rfl
-- … and tuple packing does (compressed, metadata = raw length, marker 1 last)
example : storeReference zcToy (fun _ => true) [0, 1, 2, 3, 0, 1, 2, 3, 0] = ([refTuplesLevel, 27, 27, 0, 0x41, 1], 9) := by
  simp [storeReference, framePart, compressReferenceSegment, compressRefWith, zcToy,
    bytesToTuples, maxElem, packTuples, packLoop, tupleVal, markerByte]
example : unframePart zdToy [13, 27, 27, 0, 0x41, 1] 9 = some [0, 1, 2, 3, 0, 1, 2, 3, 0] := rfl

/-- Stored pack part read back by the decompressor's framing returns the pack. -/
theorem stored_pack_roundtrip (zc : Nat → List Nat → List Nat) (zd : List Nat → Option (List Nat))
    (hz : ∀ l x, zd (zc l x) = some x) (hne : ∀ l x, zc l x = [] → x = [])
    (level : Nat) (x : List Nat) :
    unframePart zd (storePack zc level x).1 (storePack zc level x).2 = some x := by
  unfold storePack
  exact unframe_frame zd _ _ x (pack_roundtrip zc zd hz hne level x)

example : unframePart zdToy (storePack zcToy 17 [9, 255]).1 (storePack zcToy 17 [9, 255]).2 = some [9, 255] :=
  stored_pack_roundtrip zcToy zdToy (fun _ _ => rfl) (fun _ _ h => by simp [zcToy] at h) 17 _

/-- Remark (defect D7, owned by C08): `Decompressor::get_reference_segment` ignores the part
metadata, so a reference that was stored raw (compression did not help) is not read back by that
path — here with a ZSTD stand-in that satisfies both hypotheses. `get_segment`'s path
(`unframePart`, theorem above) is the one extraction uses and is lossless. -/
theorem public_ref_reader_not_lossless :
    ∃ (zc : Nat → List Nat → List Nat) (zd : List Nat → Option (List Nat)),
      (∀ l x, zd (zc l x) = some x) ∧ (∀ l x, zc l x = [] → x = []) ∧
      (storeReference zc (fun _ => false) [1, 2, 3]).2 = 0 ∧
      unframeRefIgnoringMetadata zd (storeReference zc (fun _ => false) [1, 2, 3]).1 ≠ some [1, 2, 3] := by
  refine ⟨zcToy, zdToy, fun _ _ => rfl, fun _ _ h => by simp [zcToy] at h, by decide, by decide⟩

/-- The hypothesis `hne` cannot be dropped: a "ZSTD" that round-trips but emits an empty frame for
some non-empty input breaks `decompress_segment_with_marker` (it answers the empty segment). -/
theorem nonempty_frame_needed :
    ∃ (zc : Nat → List Nat → List Nat) (zd : List Nat → Option (List Nat)),
      (∀ l x, zd (zc l x) = some x) ∧
      decompressWithMarker zd (compressSegmentConfigured zc 17 [5]) 0 ≠ some [5] := by
  refine ⟨fun _ x => if x = [5] then [] else if x = [] then [5] else 0 :: x,
          fun c => if c = [] then some [5] else if c = [5] then some [] else some c.tail, ?_, by decide⟩
  intro l x
  by_cases h5 : x = [5]
  · simp [h5]
  · by_cases h0 : x = []
    · simp [h0]
    · simp [h5, h0]

end Ragc.Props.C12
