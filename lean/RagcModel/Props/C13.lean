import RagcModel.Lemmas.Container
import RagcModel.Lemmas.ListFacts
/-!
C13 — the archive container returns exactly what was stored.

Models: `Model/Varint.lean` (varint.rs), `Model/Container.lean` (archive.rs). The abstract
specification is the commit log `Spec.spec ops` (`names`, per-stream `parts`, `pending`) and the
reads computed from the log alone (`Spec.byId`, `Spec.next`, `Spec.reads`).
Only property theorems live here (helper lemmas are in `Lemmas/Varint.lean`, `Lemmas/Container.lean`).
-/
namespace Ragc.Props.C13
open Ragc.Varint Ragc.Container

/-- `read_varint ∘ write_varint = id` for every `u64`, with arbitrary trailing bytes. -/
theorem varint_roundtrip (v : Nat) (r : List Nat) (h : v < 2 ^ 64) :
    readVarint (writeVarint v ++ r) = some (v, r) :=
  readVarint_writeVarint v r h

example : readVarint (writeVarint (2 ^ 64 - 1) ++ [7]) = some (2 ^ 64 - 1, [7]) :=
  varint_roundtrip _ _ (by decide)

/-- Unique parsing: the varint is a prefix code (corollary of the round trip). -/
theorem varint_prefix_free (v w : Nat) (r r' : List Nat) (hv : v < 2 ^ 64) (hw : w < 2 ^ 64)
    (h : writeVarint v ++ r = writeVarint w ++ r') : v = w ∧ r = r' :=
  Ragc.Codec.prefix_free_of_roundtrip (P := (· < 2 ^ 64)) varint_roundtrip hv hw h

example (r r' : List Nat) (h : writeVarint 255 ++ r = writeVarint 256 ++ r') : False := by
  have := (varint_prefix_free 255 256 r r' (by decide) (by decide) h).1
  omega

/-- A varint occupies 1 + (number of significant bytes) bytes, and the number of significant
bytes of `v` is the least `k` with `v < 256^k` (so 0 ↦ 1 byte, 255 ↦ 2, 256 ↦ 3, 2^64-1 ↦ 9). -/
theorem varint_length (v : Nat) :
    (writeVarint v).length = 1 + byteLen v ∧ ∀ k, byteLen v ≤ k ↔ v < 256 ^ k :=
  ⟨writeVarint_length v, byteLen_le_iff v⟩

example : (writeVarint 256).length = 3 := by
  have h := varint_length 256
  have h2 := (h.2 2).mpr (by decide)
  have h1 : ¬ byteLen 256 ≤ 1 := fun hle => absurd ((h.2 1).mp hle) (by decide)
  omega

/-- The fixed 8-byte little-endian length field round-trips for every `u64`. -/
theorem fixed_u64_roundtrip (v : Nat) (r : List Nat) (h : v < 2 ^ 64) :
    readFixedU64 (le64 v ++ r) = some (v, r) :=
  readFixedU64_le64 h r

example : readFixedU64 (le64 (2 ^ 64 - 1) ++ [1, 2]) = some (2 ^ 64 - 1, [1, 2]) :=
  fixed_u64_roundtrip _ _ (by decide)

/-- The footer (directory) codec round-trips, in both build profiles, for every directory whose
names contain no NUL byte and whose numbers are `u64`s — offsets, sizes, raw sizes and counts of
any magnitude up to 2^64-1 survive. Trailing bytes are ignored. -/
theorem directory_roundtrip (env : Env) (d : List Stream) (r : List Nat)
    (hlen : d.length < 2 ^ 64)
    (h : ∀ st ∈ d, (∀ b ∈ st.name, b ≠ 0) ∧ st.rawSize < 2 ^ 64 ∧ st.parts.length < 2 ^ 64 ∧
      ∀ p ∈ st.parts, p.off < 2 ^ 64 ∧ p.size < 2 ^ 64) :
    parseFooter (readVarintO env) (serializeFooter d ++ r) = .ok d :=
  parseFooter_serialize (goodRV_readVarintO env) d r hlen h

example : parseFooter (readVarintO Env.dev)
    (serializeFooter [⟨[97, 98], 2 ^ 64 - 1, [⟨2 ^ 64 - 1, 0⟩, ⟨0, 2 ^ 64 - 1⟩]⟩, ⟨[], 0, []⟩] ++ [9])
    = .ok [⟨[97, 98], 2 ^ 64 - 1, [⟨2 ^ 64 - 1, 0⟩, ⟨0, 2 ^ 64 - 1⟩]⟩, ⟨[], 0, []⟩] :=
  directory_roundtrip _ _ _ (by decide) (by decide)

/-- The footer determines the directory: two different (well-formed) directories never serialise
to the same footer bytes, whatever follows them. -/
theorem directory_injective (d d' : List Stream) (r r' : List Nat)
    (hlen : d.length < 2 ^ 64) (hlen' : d'.length < 2 ^ 64)
    (h : ∀ st ∈ d, (∀ b ∈ st.name, b ≠ 0) ∧ st.rawSize < 2 ^ 64 ∧ st.parts.length < 2 ^ 64 ∧
      ∀ p ∈ st.parts, p.off < 2 ^ 64 ∧ p.size < 2 ^ 64)
    (h' : ∀ st ∈ d', (∀ b ∈ st.name, b ≠ 0) ∧ st.rawSize < 2 ^ 64 ∧ st.parts.length < 2 ^ 64 ∧
      ∀ p ∈ st.parts, p.off < 2 ^ 64 ∧ p.size < 2 ^ 64)
    (he : serializeFooter d ++ r = serializeFooter d' ++ r') : d = d' :=
  Outcome.ok.inj ((directory_roundtrip Env.release d r hlen h).symm.trans
    (he ▸ directory_roundtrip Env.release d' r' hlen' h'))

/-- Non-vacuity: concrete directories meet the hypotheses, so equal footers force equal directories. -/
example (r r' : List Nat) (d' : List Stream) (hlen' : d'.length < 2 ^ 64)
    (h' : ∀ st ∈ d', (∀ b ∈ st.name, b ≠ 0) ∧ st.rawSize < 2 ^ 64 ∧ st.parts.length < 2 ^ 64 ∧
      ∀ p ∈ st.parts, p.off < 2 ^ 64 ∧ p.size < 2 ^ 64)
    (he : serializeFooter [⟨[97], 3, [⟨0, 2⟩, ⟨2, 1⟩]⟩] ++ r = serializeFooter d' ++ r') :
    [⟨[97], 3, [⟨0, 2⟩, ⟨2, 1⟩]⟩] = d' :=
  directory_injective _ _ r r' (by decide) hlen' (by decide) h' he

/-- Registering a name twice returns the same id and changes nothing the second time. -/
theorem register_idempotent (s : State) (name : List Nat) :
    registerStream (registerStream s name).1 name
      = ((registerStream s name).1, (registerStream s name).2) :=
  register_twice s name

example : (registerStream (registerStream State.init [97]).1 [97]).2 = 0 := by
  rw [register_idempotent]; rfl

/-- Ids are stable over the whole history: after any operations, `register_stream(name)` returns
the position of `name` in the registration order (the id it was given first), or the next free id
for a new name. -/
theorem register_returns_first_id (ops : List Op) (hops : ∀ op ∈ ops, OpOK op) (name : List Nat) :
    (registerStream (run ops) name).2 = (Spec.spec ops).names.idxOf name :=
  register_id_spec (rel_run ops hops) name

example : (registerStream (run [.register [97], .register [98], .add 1 [1] 2, .register [97]]) [98]).2
    = 1 := by
  rw [register_returns_first_id _ (by decide)]
  rfl

/-- The commit order of a flush is sorted by stream id … -/
theorem commit_order_sorted (p : List (Nat × Blob)) :
    (Spec.ordered p).Pairwise (fun u v => u.1 ≤ v.1) :=
  foldl_insertStable_pairwise p [] List.Pairwise.nil

/-- … and keeps, for every stream, exactly its buffered parts in insertion order (a stable sort).
Together with `commit_order_sorted` this determines `Spec.ordered p` uniquely. -/
theorem commit_order_stable (p : List (Nat × Blob)) (k : Nat) :
    (Spec.ordered p).filter (fun y => y.1 == k) = p.filter (fun y => y.1 == k) := by
  have := foldl_insertStable_filter p [] k List.Pairwise.nil
  simpa [Spec.ordered] using this

example : Spec.ordered [(2, [1], 5), (0, [2], 6), (2, [3], 7), (0, [], 8)]
    = [(0, [2], 6), (0, [], 8), (2, [1], 5), (2, [3], 7)] := rfl

/-- What a flush means per stream (the observable part of the commit order): when every buffered
part names an existing stream, stream `k` gains exactly its buffered parts, in insertion order,
after what it already had, and nothing stays pending. -/
theorem flush_commits_per_stream (a : Spec.Log) (k : Nat)
    (hlen : a.parts.length = a.names.length) (hv : ∀ x ∈ a.pending, x.1 < a.names.length) :
    (Spec.step a .flush).pending = [] ∧ (Spec.step a .flush).names = a.names ∧
    (Spec.step a .flush).parts.getD k []
      = a.parts.getD k [] ++ (a.pending.filter (fun y => y.1 == k)).map (·.2) := by
  have hf := commitLoop_frame (Spec.ordered a.pending) { a with pending := [] }
  refine ⟨hf.2, hf.1, ?_⟩
  rw [Spec.step, commitLoop_parts _ { a with pending := [] } k hlen
    fun x hx => hv x (mem_ordered.mp hx), commit_order_stable]

example : (Spec.step ⟨[[97], [98]], [[([1], 1)], []], [(1, [2], 2), (0, [3], 3), (1, [], 4)]⟩ .flush).parts
    = [[([1], 1), ([3], 3)], [([2], 2), ([], 4)]] := rfl

/-- **Main refinement.** For every history `ops` over the five operations (any interleaving,
any stream ids — invalid ones fail as in the Rust and have the effect the log says — data of any
length, metadata/raw sizes any `u64`, names without NUL), in both build profiles: opening the
closed file succeeds and the reader answers every query exactly as the abstract commit log does:
same names in registration order with the same ids, unknown names unknown, the same number of
parts per stream, every part by id (non-empty parts with exact bytes and metadata, empty parts as
`([], 0)`, out-of-range ids `Err`), and every sequence of `get_part` / `get_part_by_id` reads in
any order. The only side conditions are physical: the file fits the file system
(`length ≤ seekMax < 2^63`). Buffered parts not yet flushed are in `pending`, not in the log;
after a final flush nothing is pending (`final_flush_nothing_pending`). -/
theorem container_refines_log (ops : List Op) (env : Env)
    (hops : ∀ op ∈ ops, OpOK op) (hmax : env.seekMax < 2 ^ 63)
    (hfile : (close (run ops)).length ≤ env.seekMax) :
    ∃ r, openBytes env (close (run ops)) = .ok r ∧
      getStreamNames r = (Spec.spec ops).names ∧
      (∀ i name, (Spec.spec ops).names[i]? = some name → getStreamId r name = some i) ∧
      (∀ name, name ∉ (Spec.spec ops).names → getStreamId r name = none) ∧
      (∀ sid, getNumParts r sid = ((Spec.spec ops).parts.getD sid []).length) ∧
      (∀ sid pid, getPartById env r sid pid = Spec.byId (Spec.spec ops).parts sid pid) ∧
      (∀ reads, runReads env r reads
        = Spec.reads (Spec.spec ops).parts (List.replicate (Spec.spec ops).names.length 0) reads) := by
  have h := rel_run ops hops
  refine ⟨_, openBytes_close h env hmax hfile, ?_, ?_, ?_, ?_, ?_, ?_⟩
  · exact h.names.symm
  · intro i name hi
    have := lastIdx_of_getElem? name (run ops).streams 0 i none (h.names ▸ h.nodup) (h.names ▸ hi)
    rwa [Nat.zero_add] at this
  · intro name hn
    exact lastIdx_not_mem name _ 0 none (h.names ▸ hn)
  · intro sid
    rcases h.streams.lookup sid with ⟨h1, h2⟩ | ⟨st, bl, h1, h2, hr⟩
    · simp only [getNumParts, List.getD_eq_getElem?_getD, h1, h2]; rfl
    · simp only [getNumParts, List.getD_eq_getElem?_getD, h1, h2]; exact hr.parts.1
  · intro sid pid
    exact getPartById_spec h (goodRV_readVarintO env) _ hfile _ sid pid
  · intro reads
    rw [runReads_spec h env hfile, h.namesLen]

/-- Non-vacuity: a history with repeated registration, interleaved buffered/immediate parts, an
empty part and metadata 2^64-1 meets the hypotheses; its log is the expected one. -/
example :
    let ops : List Op := [.register [97, 98], .register [99], .register [97, 98], .addBuf 1 [9] 7,
      .add 0 [1, 2, 3] (2 ^ 64 - 1), .add 0 [] 42, .addBuf 0 [4] 300, .flush, .setRaw 1 100]
    (∀ op ∈ ops, OpOK op) ∧ Env.release.seekMax < 2 ^ 63 ∧
    (close (run ops)).length ≤ Env.release.seekMax ∧
    (Spec.spec ops).names = [[97, 98], [99]] ∧
    (Spec.spec ops).parts = [[([1, 2, 3], 2 ^ 64 - 1), ([], 42), ([4], 300)], [([9], 7)]] ∧
    Spec.byId (Spec.spec ops).parts 0 1 = .ok ([], 0) := by
  refine ⟨by decide, by decide, ?_, rfl, rfl, rfl⟩
  -- only the lengths of the varints are evaluated, not their bytes
  simp [run, runFrom, step, registerStream, findStream, addPart, addPartBuffered, insertStable,
    flushBuffers, flushLoop, setRawSize, State.init, close_length, serializeFooter, serializeStream,
    writeVarint_length, byteLen, digits_pos, digits_zero, Env.release, List.findIdx?_cons]

/-- The same for the repaired reader (`openBytesFixed`): it accepts every archive the writer
produces and answers identically — the range checks reject no valid archive. -/
theorem container_refines_log_fixed (ops : List Op) (seekMax : Nat)
    (hops : ∀ op ∈ ops, OpOK op) (hmax : seekMax < 2 ^ 63)
    (hfile : (close (run ops)).length ≤ seekMax) :
    ∃ r, openBytesFixed seekMax (close (run ops)) = .ok r ∧
      getStreamNames r = (Spec.spec ops).names ∧
      (∀ sid pid, getPartByIdFixed seekMax r sid pid = Spec.byId (Spec.spec ops).parts sid pid) := by
  have h := rel_run ops hops
  refine ⟨_, openBytesFixed_close h seekMax hmax hfile, ?_, ?_⟩
  · exact h.names.symm
  · intro sid pid
    exact getPartById_spec h goodRV_readVarintFixed _ hfile _ sid pid

/-- After a final flush nothing is pending: every buffered part was committed or (if its stream id
never existed) reported as an error by that flush. -/
theorem final_flush_nothing_pending (ops : List Op) :
    (Spec.spec (ops ++ [.flush])).pending = [] := by
  rw [Spec.spec, Spec.specFrom, List.foldl_append]
  exact (commitLoop_frame _ _).2

example : (Spec.spec [.register [97], .addBuf 0 [1] 2]).pending = [(0, [1], 2)] ∧
    (Spec.spec ([.register [97], .addBuf 0 [1] 2] ++ [.flush])).parts = [[([1], 2)]] := ⟨rfl, rfl⟩

end Ragc.Props.C13
