import RagcModel.Model.Priority
import RagcModel.Gen.Tables
import RagcModel.Props.C03
import RagcModel.Props.C07
import RagcModel.Props.C09
import RagcModel.Props.C12
import RagcModel.Props.C13
import RagcModel.Props.C14
import RagcModel.Props.C20
/-!
C18 — behaviour independent of integer-overflow checking.

"No code path anywhere relies on wrap-around" is not a theorem about a finite model. What is proved
is, per modelled arithmetic site, that on the function's domain the overflow-checked reading and the
wrapping reading coincide (no intermediate value leaves the machine range). The sites proved in
other property files are re-exported here under their C18 role so that this property's obligations
are re-checked with it; the two-profile differential run (harness `c18.rs`) covers everything else
the case streams reach.
-/
namespace Ragc.Props.C18
open Ragc.Priority

/-! ### k-mer mask of the fallback-minimizer scans (defect D14, repaired in /repo commit b2fb45b) -/

/-- `x << s` on `u64` in the overflow-checked reading: a shift amount ≥ 64 panics (`none`). -/
def shlChecked (x s : Nat) : Option Nat := if s < 64 then some (x * 2 ^ s % 2 ^ 64) else none
/-- … and in the release reading: the amount is taken modulo 64. -/
def shlWrapping (x s : Nat) : Nat := x * 2 ^ (s % 64) % 2 ^ 64

/-- The mask expression of the current source, `if k >= 32 { !0u64 } else { (1u64 << (2 * k)) - 1 }`,
in the checked reading (`none` = panic) … -/
def maskChecked (k : Nat) : Option Nat :=
  if k ≥ 32 then some (2 ^ 64 - 1)
  else match shlChecked 1 (2 * k) with
    | some v => if v = 0 then none else some (v - 1)   -- `- 1` on 0 would underflow
    | none => none
/-- … and in the release reading. -/
def maskWrapping (k : Nat) : Nat :=
  if k ≥ 32 then 2 ^ 64 - 1 else (shlWrapping 1 (2 * k) + 2 ^ 64 - 1) % 2 ^ 64

/-- The expression before the repair, `(1u64 << (2 * k)) - 1`. -/
def maskOldChecked (k : Nat) : Option Nat :=
  match shlChecked 1 (2 * k) with
  | some v => if v = 0 then none else some (v - 1)
  | none => none
def maskOldWrapping (k : Nat) : Nat := (shlWrapping 1 (2 * k) + 2 ^ 64 - 1) % 2 ^ 64

/-- The source has exactly the guarded expression at both sites (regenerated on every run). -/
theorem fallback_mask_sites :
    Ragc.Gen.fallbackMaskExprs =
      ["if k >= 32 { !0u64 } else { (1u64 << (2 * k)) - 1 }", "if k >= 32 { !0u64 } else { (1u64 << (2 * k)) - 1 }"] :=
  rfl

/-- For every accepted k (1..32) the two readings agree and give the 2k-bit mask: no panic, no wrap. -/
theorem fallback_mask_profiles_agree (k : Nat) (h1 : 1 ≤ k) (h32 : k ≤ 32) :
    maskChecked k = some (4 ^ k - 1) ∧ maskWrapping k = 4 ^ k - 1 := by
  -- as `∀ k, k ≤ 32 → 1 ≤ k → …` the statement is a table of 33 rows
  revert h1
  revert k
  decide +kernel

/-- The repaired defect: at k = 32 the old expression panicked under overflow checks and evaluated
to 0 (not 2^64 - 1) in a release build — the two profiles behaved differently, and the release
build masked every fallback k-mer to 0. For k < 32 it was fine. -/
theorem old_mask_k32 : maskOldChecked 32 = none ∧ maskOldWrapping 32 = 0 ∧
    ∀ k ∈ List.range 32, 1 ≤ k → maskOldChecked k = some (4 ^ k - 1) ∧ maskOldWrapping k = 4 ^ k - 1 := by
  decide +kernel

/-! ### priority arithmetic (agc_compressor.rs push / sync tokens) -/

/-- Every priority the counter hands out stays inside `i32` for up to 2^32 - 1 requests
    (samples + sync rounds); the decrement that follows is in range too while `n < 2^32 - 1`. -/
theorem priority_counter_in_range (n : Nat) (h : n ≤ 4294967295) : inI32 (issued n) := by
  unfold inI32 issued counterAfter i32Min i32Max; omega

theorem priority_decrement_in_range (n : Nat) (h : n < 4294967295) : inI32 (counterAfter (n + 1)) := by
  unfold inI32 counterAfter i32Min i32Max; omega

/-- Sync tokens carry an already issued priority: no new arithmetic, hence no overflow. -/
theorem token_priority_in_range (n : Nat) (h : n ≤ 4294967295) : inI32 (tokenPriority n) :=
  priority_counter_in_range n h

/-- The debugging path `sample_priority + 1` is only taken for a sample that is not the first. -/
theorem env_token_priority_in_range (n : Nat) (h1 : 1 ≤ n) (h : n ≤ 4294967295) :
    inI32 (envTokenPriority n) := by
  unfold inI32 envTokenPriority issued counterAfter i32Min i32Max; omega

/-- The repaired defect: the old rule `new_priority + 1_000_000` left `i32` for the first million
    sync rounds/samples — i.e. for every realistic input (dev profile: panic; release: wrap). -/
theorem old_token_priority_overflows (n : Nat) (h : n + 1 < 1000000) : ¬ inI32 (tokenPriorityOld n) := by
  unfold inI32 tokenPriorityOld issued counterAfter i32Min i32Max; omega

example : inI32 (tokenPriority 3) ∧ ¬ inI32 (tokenPriorityOld 0) := by decide

/-- Tokens of `sync_and_flush`/`finalize` (priority 1_000_000) are below every contig priority as
    long as fewer than 2^31 - 1_000_001 priorities were issued. -/
theorem final_tokens_below_contigs (n : Nat) (h : n < 2146483646) : (1000000 : Int) < issued n := by
  unfold issued counterAfter i32Max; omega

/-- `parse_capacity` of ragc-cli after the repair: the checked product is exact and fits `usize`. -/
theorem parse_capacity_exact (num mult v : Nat) (h : parseCapacity num mult = some v) :
    v = num * mult ∧ v ≤ usizeMax := by
  unfold parseCapacity at h
  split at h <;> cases h
  exact ⟨rfl, ‹_›⟩

/-- the value the cli agent found: `17179869184G` wrapped to capacity 0 before the repair. -/
theorem parse_capacity_old_wraps :
    parseCapacityOldWrapping 17179869184 (1024 * 1024 * 1024) = 0 ∧
    parseCapacity 17179869184 (1024 * 1024 * 1024) = none := by decide

/-! ### sites proved with their own property, re-checked here -/

/-- k-mer insert: no addition wraps, every shift amount is below 64 (kmer.rs). -/
theorem kmer_insert_no_overflow : type_of% @Ragc.Props.C20.no_overflow := @Ragc.Props.C20.no_overflow

/-- whole-k-mer reverse complement: shift amounts below 64 (kmer.rs 258-278). -/
theorem kmer_rc_shifts : type_of% @Ragc.Props.C20.rc_kmer_shifts := @Ragc.Props.C20.rc_kmer_shifts

/-- `raw_length - k` for later segments (decompressor.rs 271, 342): under the archive
    well-formedness the checked and wrapping readings agree. -/
theorem contig_length_no_underflow : type_of% @Ragc.Props.C07.length_no_underflow :=
  @Ragc.Props.C07.length_no_underflow

/-- …and exactly when it would underflow. -/
theorem contig_length_underflow_iff : type_of% @Ragc.Props.C07.length_underflow_iff :=
  @Ragc.Props.C07.length_underflow_iff

/-- tuple unpacking: both profiles agree except on a lone marker byte (tuple_packing.rs). -/
theorem tuple_profiles_agree : type_of% @Ragc.Props.C12.tuple_dec_profiles_agree :=
  @Ragc.Props.C12.tuple_dec_profiles_agree

/-- tuple round trip holds in both profiles. -/
theorem tuple_roundtrip_both_profiles : type_of% @Ragc.Props.C12.tuple_roundtrip_mode :=
  @Ragc.Props.C12.tuple_roundtrip_mode

/-- LZ encoder: no index underflow / out-of-range slice for any candidate supplier (lz_diff.rs). -/
theorem lz_encode_no_panic : type_of% @Ragc.Props.C09.encode_total := @Ragc.Props.C09.encode_total

/-- repaired archive reader: for ALL byte strings open is ok or err — no arithmetic outcome. -/
theorem archive_open_total : type_of% @Ragc.Props.C14.openFixed_total := @Ragc.Props.C14.openFixed_total

/-- container round trip holds in both arithmetic profiles. -/
theorem container_both_profiles : type_of% @Ragc.Props.C13.container_refines_log :=
  @Ragc.Props.C13.container_refines_log

/-- zigzag with prediction: round trip on the u64-wrapping model for values below 2^63. -/
theorem zigzag_wrapping_roundtrip : type_of% @Ragc.Props.C03.zigzag_roundtrip := @Ragc.Props.C03.zigzag_roundtrip

end Ragc.Props.C18
