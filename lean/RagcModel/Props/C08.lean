import RagcModel.Lemmas.ReaderState
import RagcModel.Lemmas.ReaderLink
/-!
C08 — reader answers do not depend on query history or on other readers.

All theorems are about `Model/ReaderState.lean`: the handle of `ragc-core/src/decompressor.rs` as a
state machine (`step`) over an abstract archive content `A : Arch` (sample names, metadata batches,
per-group reference loader, per-segment decoder — arbitrary functions, so the theorems hold for
every archive content, every number of batches and every batch size). The only hypothesis is
`WF A`: the metadata batches together hold one entry per sample name (decidable; the writer stores
all samples, 50 per batch; observed by the harness on every generated archive).

`answer A op` is the specification: a function of the archive content and the operation only.
`Inv A st` (Lemmas/ReaderState.lean) is the handle invariant: the contig metadata is untouched or
exactly the archive's table, and the cache holds only LZ groups with the reference the archive
yields for them.

The last section (`archOf_wf`, `written_archive_content`, `handle_loader_is_decoder`,
`planner_answers`, `reader_answers_input(_planned)`, `reader_answers_input_bytes`) instantiates `A` with the content of a file
that `create` wrote — `ReaderLink.archOf cfg inp dec`, which `written_archive_content` proves to be
the `Arch` the independent decoder's stages build from the bytes of `Writer.writeArchive` — and
concludes that every query after every history returns the INPUT's data (`Lemmas/ReaderLink.lean`
has the development and the list of what is not covered).

`stepOld` is the code before the two repairs (a501c7c, b8c4c45); the negation theorems at the end
show that both old behaviours violate the property, on every archive of the stated shape and on a
concrete one.
-/
namespace Ragc.Props.C08
open Ragc.CollVarint (Res)
open Ragc.Names (Name)
open Ragc.Details (Seg Contig)
open Ragc.ReaderState

/-! ## A concrete two-batch archive (non-vacuity) -/

namespace Demo
/-- Samples `A`, `B` in batch 0, `C`, `D` in batch 1. `A/x` has an LZ reference segment and a
reverse-complemented LZ delta, `A/y` a raw-group segment; `B/x` one LZ delta; `C` really has no
contig (it re-triggers loading on every query); `D/z` lies in group 17 whose reference cannot be
loaded. `refOld`: what the pre-repair `get_reference_segment` made of the same parts (group 16:
stored raw ⇒ error). -/
def arch : Arch :=
  { k := 3
    samples := [[65], [66], [67], [68]]
    batches :=
      [ [ [⟨[120], [⟨16, 0, false, 5⟩, ⟨16, 1, true, 5⟩]⟩, ⟨[121], [⟨0, 0, false, 2⟩]⟩],
          [⟨[120], [⟨16, 1, false, 5⟩]⟩] ],
        [ [], [⟨[122], [⟨17, 0, false, 4⟩]⟩] ] ]
    ref := fun g => if g = 16 then .ok [0, 1, 2, 3, 0] else .err
    refOld := fun _ => .err
    delta := fun g i r => if g = 16 ∧ i = 1 ∧ r = [0, 1, 2, 3, 0] then .ok [3, 3, 3, 0, 1] else .err
    raw := fun g i => if g = 0 ∧ i = 0 then .ok [1, 2] else .err
    streams := [([112], 20, 20, 1)] }

def wf : WF arch := by decide

/-- A history touching everything: miss, hit in batch 0, hit in batch 1, the empty sample twice,
descriptor and reference queries, the full-table queries. -/
def hist : List Op :=
  [.getSample [90], .getContig [65] [120], .listContigs [67], .listContigs [67], .getSample [68],
   .referenceSegment 16, .segmentData ⟨16, 1, false, 5⟩, .allSegments, .groupStatistics,
   .getSamplesByPrefix [], .contigRange [65] [120] 2 6, .contigRange [90] [90] 6 2]
end Demo

theorem inv_fresh (A : Arch) : Inv A (fresh A) := Ragc.ReaderState.inv_fresh A

/-- Every operation (successful or failed, known or unknown arguments) preserves the invariant. -/
theorem inv_step (A : Arch) (hwf : WF A) (st : State) (op : Op) (h : Inv A st) :
    Inv A (step A st op).1 :=
  (step_spec A st op hwf h).2

example : Inv Demo.arch (run Demo.arch (fresh Demo.arch) Demo.hist).1 :=
  inv_run Demo.arch Demo.wf Demo.hist _ (inv_fresh _)
-- the invariant is not trivially "untouched": after the history the metadata is the full table
example : (run Demo.arch (fresh Demo.arch) Demo.hist).1.contigs = table Demo.arch := by decide +kernel
example : (run Demo.arch (fresh Demo.arch) Demo.hist).1.cache = [(16, [0, 1, 2, 3, 0])] := by decide +kernel

/-- On a handle satisfying the invariant every operation answers exactly what the specification
`answer` — a function of the archive content and the operation only — says. -/
theorem answer_canonical (A : Arch) (hwf : WF A) (st : State) (op : Op) (h : Inv A st) :
    (step A st op).2 = answer A op :=
  (step_spec A st op hwf h).1

example : (step Demo.arch (run Demo.arch (fresh Demo.arch) Demo.hist).1 (.getContig [65] [120])).2
    = .ok (.bases [0, 1, 2, 3, 0, 0, 0]) := by
  rw [answer_canonical _ Demo.wf _ _ (inv_run _ Demo.wf _ _ (inv_fresh _))]; decide +kernel

/-- All results of a history are the specification's answers, operation by operation. -/
theorem history_results (A : Arch) (hwf : WF A) (ops : List Op) :
    (run A (fresh A) ops).2 = ops.map (answer A) :=
  results_run A hwf ops _ (inv_fresh A)

example : (run Demo.arch (fresh Demo.arch) Demo.hist).2 = Demo.hist.map (answer Demo.arch) :=
  history_results _ Demo.wf _
example : Demo.hist.map (answer Demo.arch) =
    [.err, .ok (.bases [0, 1, 2, 3, 0, 0, 0]), .ok (.names []), .ok (.names []), .err,
     .ok (.bases [0, 1, 2, 3, 0]), .ok (.bases [3, 3, 3, 0, 1]),
     .ok (.allSegs [([65], [120], [⟨16, 0, false, 5⟩, ⟨16, 1, true, 5⟩]), ([65], [121], [⟨0, 0, false, 2⟩]),
                    ([66], [120], [⟨16, 1, false, 5⟩]), ([68], [122], [⟨17, 0, false, 4⟩])]),
     .ok (.groupStats [(0, 1, 0, 1), (16, 3, 1, 2), (17, 1, 1, 0)]), .err,
     .ok (.bases [2, 3, 0, 0]), .ok (.bases [])] := by decide +kernel

/-- **History independence.** The result of any query after any sequence of earlier queries
(successful or failed, for existing or unknown names) is the result of the same query on a freshly
opened handle. -/
theorem history_independent (A : Arch) (hwf : WF A) (ops : List Op) (op : Op) :
    (step A (run A (fresh A) ops).1 op).2 = (step A (fresh A) op).2 := by
  rw [answer_canonical A hwf _ op (inv_run A hwf ops _ (inv_fresh A)),
    answer_canonical A hwf _ op (inv_fresh A)]

example : (step Demo.arch (run Demo.arch (fresh Demo.arch) Demo.hist).1 (.getSample [65])).2 =
    (step Demo.arch (fresh Demo.arch) (.getSample [65])).2 :=
  history_independent _ Demo.wf _ _
example : (step Demo.arch (fresh Demo.arch) (.getSample [65])).2 =
    .ok (.sample [([120], [0, 1, 2, 3, 0, 0, 0]), ([121], [1, 2])]) := by decide +kernel

/-- Two handles with different histories give the same answer. -/
theorem histories_agree (A : Arch) (hwf : WF A) (ops₁ ops₂ : List Op) (op : Op) :
    (step A (run A (fresh A) ops₁).1 op).2 = (step A (run A (fresh A) ops₂).1 op).2 := by
  rw [history_independent A hwf ops₁, history_independent A hwf ops₂]

example : (step Demo.arch (run Demo.arch (fresh Demo.arch) Demo.hist).1 .groupStatistics).2 =
    (step Demo.arch (run Demo.arch (fresh Demo.arch) [.getSample [90]]).1 .groupStatistics).2 :=
  histories_agree _ Demo.wf _ _ _

/-! ## Other readers: `clone_for_thread` and interleavings -/

/-- **Independence of other readers.** A program owns any number of handles: it starts with one
freshly opened handle, `clone h` adds a handle (`clone_for_thread` re-opens the archive),
`on h op` runs an operation on handle `h`. For every list of such actions — i.e. every interleaving
of the operations of the handles' threads — every operation answers the specification's answer
(hence the fresh-handle answer, `answer_canonical`), and every clone succeeds. -/
theorem clones_independent (A : Arch) (hwf : WF A) (acts : List SysOp) :
    ∀ r ∈ (sysRun A [fresh A] acts).2.zip acts, ∀ res, r.1 = some res →
      res = match r.2 with
        | .on _ op => answer A op
        | .clone _ => .ok .unit :=
  (sysRun_spec A hwf acts [fresh A]
    (by intro st hst; rw [List.mem_singleton.mp hst]; exact inv_fresh A)).2

/-- The same with the fresh-handle answer spelled out. -/
theorem clones_answer_like_fresh (A : Arch) (hwf : WF A) (acts : List SysOp) (h : Nat) (op : Op)
    (res : Result) (hm : (some res, SysOp.on h op) ∈ (sysRun A [fresh A] acts).2.zip acts) :
    res = (step A (fresh A) op).2 := by
  rw [answer_canonical A hwf _ op (inv_fresh A)]
  exact clones_independent A hwf acts _ hm res rfl

example : (sysRun Demo.arch [fresh Demo.arch]
    [.on 0 (.getSample [90]), .clone 0, .clone 1, .on 2 (.getContig [65] [120]), .on 0 (.referenceSegment 16),
     .on 1 (.getContig [65] [120]), .on 7 .listSamples]).2 =
    [some .err, some (.ok .unit), some (.ok .unit), some (.ok (.bases [0, 1, 2, 3, 0, 0, 0])),
     some (.ok (.bases [0, 1, 2, 3, 0])), some (.ok (.bases [0, 1, 2, 3, 0, 0, 0])), none] := by decide +kernel

/-- The operation names a sample the archive does not have. -/
def UnknownSample (A : Arch) : Op → Prop
  | .listContigs s | .getSample s | .writeSampleFasta s => s ∉ A.samples
  | .contigLength s _ | .getContig s _ | .segmentsDesc s _ | .contigRange s _ _ _ => s ∉ A.samples
  | _ => False

/-- The operation names a known sample and a contig that this sample does not have. -/
def UnknownContig (A : Arch) : Op → Prop
  | .contigLength s c | .getContig s c | .segmentsDesc s c | .contigRange s c _ _ =>
    ∃ cs, contigsOf A.samples (table A) s = some cs ∧ ∀ x ∈ cs, x.name ≠ c
  | _ => False

/-- The one exception: `get_contig_range` returns early when `start >= end`, before any lookup. -/
def EarlyRange : Op → Prop
  | .contigRange _ _ start end_ => start ≥ end_
  | _ => False

/-- **Unknown names are errors, never panics.** After any history, an operation naming an unknown
sample, or an unknown contig of a known sample, returns `err` — with the single exception of a
range query with `start >= end`, which returns the empty sequence without looking anything up
(`early_range_is_ok`). -/
theorem unknown_is_error (A : Arch) (hwf : WF A) (st : State) (op : Op) (h : Inv A st)
    (hu : UnknownSample A op ∨ UnknownContig A op) (hne : ¬ EarlyRange op) :
    (step A st op).2 = .err := by
  rw [answer_canonical A hwf st op h]
  cases op with
  | contigLength s c | getContig s c | segmentsDesc s c =>
    -- for a descriptor query the two hypotheses are the two ways the descriptor lookup fails
    simp only [answer, answerDesc, contigDesc_eq_none _ _ s c hu]
  | contigRange s c a b =>
    simp only [answer, if_neg (show ¬ a ≥ b from hne), answerDesc, contigDesc_eq_none _ _ s c hu]
  | listContigs s =>
    simp only [answer, contigsOf_unknown _ _ _ (hu.resolve_right id)]
  | getSample s | writeSampleFasta s =>
    simp only [answer, answerSample, contigsOf_unknown _ _ _ (hu.resolve_right id), mapRes]
  | _ => exact (hu.elim id id).elim

example : (step Demo.arch (run Demo.arch (fresh Demo.arch) Demo.hist).1 (.getContig [65] [122])).2 = .err :=
  unknown_is_error _ Demo.wf _ _ (inv_run _ Demo.wf _ _ (inv_fresh _))
    (Or.inr ⟨[⟨[120], [⟨16, 0, false, 5⟩, ⟨16, 1, true, 5⟩]⟩, ⟨[121], [⟨0, 0, false, 2⟩]⟩], by decide, by decide⟩)
    (by simp [EarlyRange])
example : (step Demo.arch (fresh Demo.arch) (.writeSampleFasta [90])).2 = .err :=
  unknown_is_error _ Demo.wf _ _ (inv_fresh _) (Or.inl (by show [90] ∉ Demo.arch.samples; decide))
    (by simp [EarlyRange])

/-- The exception, exactly: `start >= end` answers `Ok([])` on every handle state and for every
pair of names, known or not, and does not touch the handle. -/
theorem early_range_is_ok (A : Arch) (st : State) (s c : Name) (start end_ : Nat) (h : start ≥ end_) :
    step A st (.contigRange s c start end_) = (st, .ok (.bases [])) := by
  simp only [step, stepV, h, if_true]

example : step Demo.arch (fresh Demo.arch) (.contigRange [90] [90] 6 2) = (fresh Demo.arch, .ok (.bases [])) :=
  early_range_is_ok _ _ _ _ _ _ (by decide)

/-- **Reloading is idempotent.** On a handle in any metadata state (whatever was loaded before,
wherever the cursor stands) loading all batches succeeds, yields exactly the archive's table, does
not touch the cache, and doing it again changes nothing. A sample that really has no contigs
triggers this on every query. -/
theorem reload_idempotent (A : Arch) (hwf : WF A) (st : State)
    (hlen : st.contigs.length = A.samples.length) :
    ∃ st1, loadAll current A st = .ok st1 ∧ st1.contigs = table A ∧ st1.cache = st.cache ∧
      loadAll current A st1 = .ok st1 := by
  refine ⟨_, loadAll_current_eq A st hwf hlen, rfl, rfl, ?_⟩
  rw [loadAll_current_eq A { contigs := table A, cursor := loadedCursor A st, cache := st.cache } hwf hwf]
  simp only [loadedCursor]
  split <;> rfl

-- the sample `C` has no contigs: every query for it reloads both batches and lands in the same state
example : (step Demo.arch (step Demo.arch (fresh Demo.arch) (.listContigs [67])).1 (.listContigs [67])) =
    (step Demo.arch (fresh Demo.arch) (.listContigs [67])) := by decide +kernel
example : needsLoad Demo.arch (step Demo.arch (fresh Demo.arch) (.listContigs [67])).1 [67] = true := by decide +kernel

/-! ## The two repaired defects violate the property (`stepOld`) -/

/-- **D6 (before a501c7c).** With the cumulative cursor, on every archive whose first metadata
batch is non-empty, any `get_sample` (known or unknown name) followed by a `get_sample` for an
unknown name panics: the second load starts past the end of the sample table. So
`unknown_is_error` and `history_independent` were both false. -/
theorem old_miss_after_query_panics (A : Arch) (hwf : WF A) (b : MBatch) (bs : List MBatch)
    (hb : A.batches = b :: bs) (hne : b ≠ []) (first miss : Name) (hmiss : miss ∉ A.samples) :
    (stepOld A (stepOld A (fresh A) (.getSample first)).1 (.getSample miss)).2 = .panic ∧
    (stepOld A (fresh A) (.getSample miss)).2 = .err := by
  obtain ⟨c, r, he, _⟩ := stepGetSample_old_fresh A hwf first
  obtain ⟨c', r', he', hr'⟩ := stepGetSample_old_fresh A hwf miss
  constructor
  · simp only [stepOld, stepV, he, stepGetSample_old_miss A ⟨table A, (table A).length, c⟩ miss b bs hb hne hmiss
      (Nat.le_refl _), mapRes]
  · simp only [stepOld, stepV, he', hr' hmiss, mapRes]

example : (runOld Demo.arch (fresh Demo.arch) [.getSample [65], .getSample [90]]).2 =
    [.ok (.sample [([120], [0, 1, 2, 3, 0, 0, 0]), ([121], [1, 2])]), .panic] := by decide +kernel
example : (run Demo.arch (fresh Demo.arch) [.getSample [65], .getSample [90]]).2 =
    [.ok (.sample [([120], [0, 1, 2, 3, 0, 0, 0]), ([121], [1, 2])]), .err] := by decide +kernel
-- any full-table query after any other query
example : (runOld Demo.arch (fresh Demo.arch) [.listContigs [65], .allSegments]).2.getLast? = some .panic := by decide +kernel

/-- **D7 (before b8c4c45).** `get_reference_segment` decoded the stored part by its own rule
(`refOld`) unless the group was cached: for every group whose reference `get_segment` can load but
the old rule cannot (a reference stored raw), the answer was an error on a fresh handle and the
reference after any query that had cached the group. -/
theorem old_reference_depends_on_cache (A : Arch) (g : Nat) (r : Bases) (hg : 16 ≤ g)
    (href : A.ref g = .ok r) (hold : A.refOld g = .err) :
    (stepOld A (fresh A) (.referenceSegment g)).2 = .err ∧
    (stepOld A (stepOld A (fresh A) (.segmentData ⟨g, 0, false, 0⟩)).1 (.referenceSegment g)).2
      = .ok (.bases r) := by
  have hg' : g ≥ 16 := hg
  constructor
  · simp only [stepOld, stepV, getReference, fresh, cacheGet, preRepair, hold, mapRes]
    rfl
  · simp only [stepOld, stepV, getSegment, fresh, cacheGet, hg', if_true, href, getReference, mapRes]

example : (runOld Demo.arch (fresh Demo.arch) [.referenceSegment 16, .getContig [65] [120], .referenceSegment 16]).2 =
    [.err, .ok (.bases [0, 1, 2, 3, 0, 0, 0]), .ok (.bases [0, 1, 2, 3, 0])] := by decide +kernel
example : (run Demo.arch (fresh Demo.arch) [.referenceSegment 16, .getContig [65] [120], .referenceSegment 16]).2 =
    [.ok (.bases [0, 1, 2, 3, 0]), .ok (.bases [0, 1, 2, 3, 0, 0, 0]), .ok (.bases [0, 1, 2, 3, 0])] := by decide +kernel

/-! ## Archives that `create` wrote: after any history, every query returns the input's data

`ReaderLink.archOf cfg inp dec` is the abstract content of the file `Writer.writeArchive cfg inp dec zc`
(defined from the writer's plan; no ZSTD). The theorems below connect the theorems above (answers are
a function of the abstract archive) with `Props.C01.read_write` (the written bytes carry the input). -/

section Written
open Ragc.ReaderLink

/-- **C08's well-formedness holds for every archive the reference writer produces** (all
well-formed decisions): the metadata batches hold one contig table per sample name. -/
theorem archOf_wf (cfg : Writer.Cfg) (inp : List Writer.Sample) (dec : Writer.Decisions)
    (h : Writer.DecisionsOK cfg inp dec) : WF (archOf cfg inp dec) :=
  Ragc.ReaderLink.archOf_wf cfg inp dec h

example : WF (archOf Ex.cfg Ex.inp Ex.dec) := archOf_wf _ _ _ Ex.hyps.1
-- two samples in one batch; the tables are the writer's descriptors (ids from the `Packs` machine)
example : (archOf Ex.cfg Ex.inp Ex.dec).samples = [[65], [66]] ∧
    ((archOf Ex.cfg Ex.inp Ex.dec).batches.map fun b => b.map fun cs => cs.map Contig.name)
      = [[[[99], [100]], [[99]]]] := by decide +kernel

/-- **The abstract content of the written file is `archOf`** (direction: bytes → independent decoder
→ `Arch`). Under the hypotheses of `Props.C01.read_write` — ALL well-formed decisions, inputs over
the literal codes, any ZSTD with the two C12 facts — for `bs = writeArchive cfg inp dec zc` the
decoder's stages `openArchive`, `readParams`, `decodeCatalogue`, `decodeGroups` succeed with the
violation accumulator unchanged, return `cfg.k`, `cfg.minMatch` and the input's sample names, and the
bridge `archOfDecoded` applied to their results IS `archOf cfg inp dec` — same batches, same `ref`,
`delta`, `raw` on every argument. -/
theorem written_archive_content (cfg : Writer.Cfg) (inp : List Writer.Sample) (dec : Writer.Decisions)
    (zc : Nat → List Nat → List Nat) (zd : List Nat → Option (List Nat)) (bs : List Nat)
    (hdec : Writer.DecisionsOK cfg inp dec) (hz : ∀ l x, zd (zc l x) = some x)
    (hne : ∀ l x, zc l x = [] → x = []) (hcodes : Writer.codesOK inp)
    (hw : Writer.writeArchive cfg inp dec zc = some bs) (a : Agc3.Acc) :
    ∃ o tables nB gds, Agc3.openArchive bs = .ok o ∧
      Agc3.readParams o a = .ok (a, cfg.k, cfg.minMatch, cfg.segSize) ∧
      Agc3.decodeCatalogue zd o cfg.k cfg.segSize a = .ok (a, inp.map (·.name), tables, nB) ∧
      Agc3.decodeGroups zd o a = .ok (a, gds) ∧
      archOfDecoded cfg.k cfg.minMatch (inp.map (·.name)) tables gds = archOf cfg inp dec := by
  open Ragc.Writer Ragc.WriterLemmas Ragc.Agc3 in
  have hok := decOK_of cfg inp dec hdec
  obtain ⟨outs, o, hwg, hfit, hopen, hO⟩ := written_opens cfg inp dec zc bs hok hw
  have hpl := planned_of_writeGroups cfg inp dec zc outs hwg
  have h3 := readParams_ok o dec cfg zc inp outs _ hO hok.k32 hok.mm32 hok.seg32 a
  have h4 := decodeCatalogue_ok zc zd hz hne cfg dec inp outs o hok hcodes hwg hO hfit a
  obtain ⟨gds, h5, hG⟩ := decodeGroups_ok zc zd hz hne cfg inp dec outs _ o hok hcodes hwg hO a
  have htab : List.zipWith (fun s dcs => tableOf outs s.contigs dcs) inp dec.pieces = tablesOf cfg inp dec := by
    unfold tablesOf tableOfP tableOf
    rw [funext (descOf_eq cfg inp dec zc outs hwg)]
  refine ⟨o, _, _, gds, hopen, h3, h4, h5, ?_⟩
  unfold archOfDecoded archOf
  rw [List.toList_toArray, htab, view_eq cfg inp dec gds hok.nodup hpl hG]

/-- On the `Arch` built from ANY decoded tables, the handle's segment loader (empty cache) is the
independent decoder's `getSegment`, for every descriptor: `ok` with the same bytes, or `err`. -/
theorem handle_loader_is_decoder (k mm : Nat) (names : List Name) (tables : Array Agc3.ContigTable)
    (gds : Array Agc3.GroupD) (d : Seg) :
    segPure (archOfDecoded k mm names tables gds) d = toRes (Agc3.getSegment mm gds d) := by
  open Ragc.Agc3 in
  unfold segPure archOfDecoded archOfViews viewOfGds Agc3.getSegment fetchV
  simp only [noRawGroups]
  cases Agc3.findGroup gds d.group with
  | none => simp only [Option.map_none]; (repeat' split) <;> rfl
  | some G =>
    simp only [Option.map_some]
    by_cases hg : d.group ≥ 16
    · simp only [hg, if_true]
      cases G.ref with
      | none => rfl
      | some ref =>
        simp only []
        by_cases h0 : d.inGroup = 0
        · simp only [h0, if_true]; rfl
        · simp only [h0, if_false]
          cases G.packs[(entryAddress d.group d.inGroup).1]? with
          | none => rfl
          | some pack =>
            simp only [Option.bind_some]
            cases pack[(entryAddress d.group d.inGroup).2]? with
            | none => rfl
            | some bytes =>
              simp only []
              cases Ragc.Model.LzDiff.decodeSeg mm ref bytes <;> rfl
    · simp only [hg, if_false]
      by_cases h0 : d.inGroup = 0
      · simp only [h0, if_true]; rfl
      · simp only [h0, if_false]
        cases G.packs[(entryAddress d.group d.inGroup).1]? with
        | none => rfl
        | some pack =>
          simp only [Option.bind_some]
          cases pack[(entryAddress d.group d.inGroup).2]? <;> rfl

example : segPure (archOfDecoded 3 5 [] #[] #[⟨16, some [0, 1, 2], #[], 1, none, []⟩]) ⟨16, 0, true, 3⟩
    = .ok [0, 1, 2] ∧
    segPure (archOfDecoded 3 5 [] #[] #[⟨16, some [0, 1, 2], #[], 1, none, []⟩]) ⟨17, 0, true, 3⟩ = .err := by
  rw [handle_loader_is_decoder, handle_loader_is_decoder]; decide +kernel

/-- The planner answers for every group (`ReaderLink.Planned`) when the writer answers … -/
theorem planned_of_write (cfg : Writer.Cfg) (inp : List Writer.Sample) (dec : Writer.Decisions)
    (zc : Nat → List Nat → List Nat) (bs : List Nat) (hw : Writer.writeArchive cfg inp dec zc = some bs) :
    Planned cfg inp dec :=
  planned_of_writeArchive cfg inp dec zc bs hw

/-- … and, for well-formed decisions, whenever `min_match_len ≥ HASHING_STEP` (= 4; C09
`encode_total`), whatever the ZSTD and the sizes — so the theorems below do not depend on the
physical limits under which `writeArchive` gives up. -/
theorem planner_answers (cfg : Writer.Cfg) (inp : List Writer.Sample) (dec : Writer.Decisions)
    (hdec : Writer.DecisionsOK cfg inp dec) (hmm : Ragc.Gen.lzHashingStep ≤ cfg.minMatch) :
    Planned cfg inp dec :=
  planned_of_minMatch cfg inp dec (Ragc.WriterLemmas.decOK_of cfg inp dec hdec) hmm

example : Planned Ex.cfg Ex.inp Ex.dec := planner_answers _ _ _ Ex.hyps.1 (by decide)

/-- **Any query after any history on an archive that `create` wrote returns the input's data**
(general form: `Planned` instead of "the writer answers"). For every configuration, input and
decision vector accepted by `DecisionsOK` (so `k ≥ 1`), inputs over the literal codes, sample names
pairwise distinct and contig names distinct inside each sample (`NamesDistinct`, decidable): on the
handle model over `archOf cfg inp dec`, after ANY sequence `ops` of operations (successful or failed,
known or unknown names, any interleaving with range / reference / full-table queries),
`ReaderLink.AnswersInput` holds:

* `list_samples` = the input's sample names in order;
* for every sample of the input: `list_contigs` = its contig names in order; `get_sample` = all its
  contigs (name, bases) in order; `write_sample_fasta` = the FASTA text of these; `get_contig` of each
  of its contigs = `ok` of exactly that contig's bases; `get_contig` with a name the sample does not
  have = `err`;
* for a sample name the input does not have: `list_contigs`, `get_sample`, `get_contig` = `err`.

Never a panic. Composition of `answer_canonical` / `inv_run` (history independence) with
`ReaderLink.contig_views` (the descriptors of `archOf` load the writer's pieces: C02
`planGroup_spec`, C09) and `views_of_tiles` (C07 `reconstruct_eq_full`, C10 tiling). -/
theorem reader_answers_input_planned (cfg : Writer.Cfg) (inp : List Writer.Sample) (dec : Writer.Decisions)
    (hdec : Writer.DecisionsOK cfg inp dec) (hcodes : Writer.codesOK inp) (hpl : Planned cfg inp dec)
    (hnd : NamesDistinct inp) (ops : List Op) :
    AnswersInput (archOf cfg inp dec) inp (run (archOf cfg inp dec) (fresh (archOf cfg inp dec)) ops).1 := by
  have hok := Ragc.WriterLemmas.decOK_of cfg inp dec hdec
  have hwf := archOf_wf cfg inp dec hdec
  have hinv := inv_run (archOf cfg inp dec) hwf ops _ (inv_fresh _)
  refine ⟨?_, fun smp hs => ?_, fun s hs => ?_⟩
  · rw [answer_canonical _ hwf _ _ hinv]; rfl
  · obtain ⟨s, dcs, h1, h3, hsh⟩ := sample_index cfg inp dec hok smp hs
    have hco := contigsOf_archOf cfg inp dec hnd.1 s smp dcs h1 h3
    have hsmp := answerSample_written cfg inp dec hok hcodes hpl hnd smp hs
    refine ⟨?_, ?_, ?_, fun ctg hc => ?_, fun c hc => ?_⟩
    · rw [answer_canonical _ hwf _ _ hinv]
      simp only [answer, hco, contigListOf_names cfg inp dec smp dcs hsh]
    · rw [answer_canonical _ hwf _ _ hinv]
      simp only [answer, hsmp, mapRes]
    · rw [answer_canonical _ hwf _ _ hinv]
      simp only [answer, hsmp, mapRes]
    · rw [answer_canonical _ hwf _ _ hinv]
      exact answer_getContig_written cfg inp dec hok hcodes hpl hnd smp hs ctg hc
    · refine unknown_is_error _ hwf _ _ hinv (Or.inr ⟨_, hco, fun x hx hxc => hc ?_⟩) id
      rw [← contigListOf_names cfg inp dec smp dcs hsh, ← hxc]
      exact List.mem_map.mpr ⟨x, hx, rfl⟩
  · have hu : s ∉ (archOf cfg inp dec).samples := hs
    exact ⟨unknown_is_error _ hwf _ (.listContigs s) hinv (Or.inl hu) id,
      unknown_is_error _ hwf _ (.getSample s) hinv (Or.inl hu) id,
      fun c => unknown_is_error _ hwf _ (.getContig s c) hinv (Or.inl hu) id⟩

-- Non-vacuity on the input of `read_write`'s example: the hypotheses hold (`Ex.hyps`, by `decide`;
-- `min_match_len = 10 ≥ 4`), and after the history `Ex.hist` the answers are the input's.
example :
    let A := archOf Ex.cfg Ex.inp Ex.dec
    let st := (run A (fresh A) Ex.hist).1
    (step A st .listSamples).2 = .ok (.names [[65], [66]]) ∧
    (step A st (.listContigs [65])).2 = .ok (.names [[99], [100]]) ∧
    (step A st (.getContig [66] [99])).2 = .ok (.bases [0, 1, 2, 2, 0, 1, 2, 3, 0, 1]) ∧
    (step A st (.getSample [65])).2
      = .ok (.sample [([99], [0, 1, 2, 3, 0, 1, 2, 3, 0, 1]), ([100], [2, 4, 1])]) ∧
    (step A st (.getContig [65] [120])).2 = .err ∧ (step A st (.getSample [90])).2 = .err := by
  obtain ⟨h1, h2, h3⟩ := reader_answers_input_planned Ex.cfg Ex.inp Ex.dec Ex.hyps.1 Ex.hyps.2.1
    (planner_answers _ _ _ Ex.hyps.1 (by decide)) Ex.hyps.2.2.1 Ex.hist
  obtain ⟨a1, a2, _, a3, a4⟩ := h2 ⟨[65], [⟨[99], [0, 1, 2, 3, 0, 1, 2, 3, 0, 1]⟩, ⟨[100], [2, 4, 1]⟩]⟩ (by decide)
  obtain ⟨_, _, _, b3, _⟩ := h2 ⟨[66], [⟨[99], [0, 1, 2, 2, 0, 1, 2, 3, 0, 1]⟩]⟩ (by decide)
  exact ⟨h1, a1, b3 ⟨[99], [0, 1, 2, 2, 0, 1, 2, 3, 0, 1]⟩ (by decide), a2, a4 [120] (by decide),
    (h3 [90] (by decide)).2.1⟩

/-- **`reader_answers_input`, under the hypotheses of `Props.C01.read_write`'s writer side**
(`DecisionsOK`, `codesOK`, the writer answers) and `NamesDistinct`: after any history `ops`, every
query on the handle model over `archOf cfg inp dec` returns the input's data (`AnswersInput`, clauses
listed at `reader_answers_input_planned`). The two ZSTD facts are not needed at this level (`archOf`
is defined from the writer's plan); they enter in `written_archive_content` /
`reader_answers_input_bytes`, which tie `archOf` to the bytes. -/
theorem reader_answers_input (cfg : Writer.Cfg) (inp : List Writer.Sample) (dec : Writer.Decisions)
    (zc : Nat → List Nat → List Nat) (bs : List Nat)
    (hdec : Writer.DecisionsOK cfg inp dec) (hcodes : Writer.codesOK inp)
    (hw : Writer.writeArchive cfg inp dec zc = some bs) (hnd : NamesDistinct inp) (ops : List Op) :
    AnswersInput (archOf cfg inp dec) inp (run (archOf cfg inp dec) (fresh (archOf cfg inp dec)) ops).1 :=
  reader_answers_input_planned cfg inp dec hdec hcodes (planned_of_write cfg inp dec zc bs hw) hnd ops

-- Non-vacuity of "the writer answers" on the same input (`Ex.written`: closed evaluation of the executable
-- model, not a step of any theorem).
set_option maxRecDepth 100000 in
example : ∃ bs, Writer.writeArchive Ex.cfg Ex.inp Ex.dec Ex.zc = some bs ∧
    AnswersInput (archOf Ex.cfg Ex.inp Ex.dec) Ex.inp
      (run (archOf Ex.cfg Ex.inp Ex.dec) (fresh (archOf Ex.cfg Ex.inp Ex.dec)) Ex.hist).1 := by
  obtain ⟨bs, hbs⟩ := Ex.written
  exact ⟨bs, hbs, reader_answers_input _ _ _ _ bs Ex.hyps.1 Ex.hyps.2.1 hbs Ex.hyps.2.2.1 _⟩

/-- **Other readers on a written archive.** A program that starts with one freshly opened handle on
an archive `create` wrote, clones handles (`clone_for_thread`) and runs operations on them in ANY
interleaving: every `get_contig` of a contig of the input, on whichever handle and after whatever
happened on it and on the others, returns exactly that contig's bases. (`clones_independent` on
`archOf`.) -/
theorem clones_answer_input (cfg : Writer.Cfg) (inp : List Writer.Sample) (dec : Writer.Decisions)
    (hdec : Writer.DecisionsOK cfg inp dec) (hcodes : Writer.codesOK inp) (hpl : Planned cfg inp dec)
    (hnd : NamesDistinct inp) (acts : List SysOp) (h : Nat) (smp : Writer.Sample) (hs : smp ∈ inp)
    (ctg : Writer.Contig) (hc : ctg ∈ smp.contigs) (res : Result)
    (hm : (some res, SysOp.on h (.getContig smp.name ctg.name))
      ∈ (sysRun (archOf cfg inp dec) [fresh (archOf cfg inp dec)] acts).2.zip acts) :
    res = .ok (.bases ctg.data) := by
  have hok := Ragc.WriterLemmas.decOK_of cfg inp dec hdec
  rw [← answer_getContig_written cfg inp dec hok hcodes hpl hnd smp hs ctg hc]
  exact clones_independent _ (archOf_wf cfg inp dec hdec) acts _ hm res rfl

-- a clone of the first handle answers `get_contig` with the input's bases
example : (step (archOf Ex.cfg Ex.inp Ex.dec) (fresh (archOf Ex.cfg Ex.inp Ex.dec)) (.getContig [66] [99])).2
    = .ok (.bases [0, 1, 2, 2, 0, 1, 2, 3, 0, 1]) :=
  clones_answer_input Ex.cfg Ex.inp Ex.dec Ex.hyps.1 Ex.hyps.2.1 (planner_answers _ _ _ Ex.hyps.1 (by decide))
    Ex.hyps.2.2.1 [.clone 0, .on 1 (.getContig [66] [99])] 1
    ⟨[66], [⟨[99], [0, 1, 2, 2, 0, 1, 2, 3, 0, 1]⟩]⟩ (by decide) ⟨[99], [0, 1, 2, 2, 0, 1, 2, 3, 0, 1]⟩ (by decide) _
    (List.mem_cons_of_mem _ List.mem_cons_self)

/-- **The same for the `Arch` read from the bytes** — the end-to-end statement. Under ALL the
hypotheses of `read_write` (`DecisionsOK`, the two ZSTD facts, `codesOK`, the writer answers) and
`NamesDistinct`: for `bs = writeArchive cfg inp dec zc` the independent decoder's stages succeed and
return `tables`, `gds` such that on the handle model over `archOfDecoded cfg.k cfg.minMatch names
tables gds` — the content of the FILE — after every history every query returns the input's data
(`AnswersInput`). -/
theorem reader_answers_input_bytes (cfg : Writer.Cfg) (inp : List Writer.Sample) (dec : Writer.Decisions)
    (zc : Nat → List Nat → List Nat) (zd : List Nat → Option (List Nat)) (bs : List Nat)
    (hdec : Writer.DecisionsOK cfg inp dec) (hz : ∀ l x, zd (zc l x) = some x)
    (hne : ∀ l x, zc l x = [] → x = []) (hcodes : Writer.codesOK inp)
    (hw : Writer.writeArchive cfg inp dec zc = some bs) (hnd : NamesDistinct inp) :
    ∃ o tables nB gds, Agc3.openArchive bs = .ok o ∧
      Agc3.readParams o {} = .ok ({}, cfg.k, cfg.minMatch, cfg.segSize) ∧
      Agc3.decodeCatalogue zd o cfg.k cfg.segSize {} = .ok ({}, inp.map (·.name), tables, nB) ∧
      Agc3.decodeGroups zd o {} = .ok ({}, gds) ∧
      ∀ (ops : List Op),
        AnswersInput (archOfDecoded cfg.k cfg.minMatch (inp.map (·.name)) tables gds) inp
          (run (archOfDecoded cfg.k cfg.minMatch (inp.map (·.name)) tables gds)
            (fresh (archOfDecoded cfg.k cfg.minMatch (inp.map (·.name)) tables gds)) ops).1 := by
  obtain ⟨o, tables, nB, gds, h1, h2, h3, h4, h5⟩ :=
    written_archive_content cfg inp dec zc zd bs hdec hz hne hcodes hw {}
  refine ⟨o, tables, nB, gds, h1, h2, h3, h4, ?_⟩
  rw [h5]
  exact reader_answers_input cfg inp dec zc bs hdec hcodes hw hnd

example : (∀ l x, Ex.zd (Ex.zc l x) = some x) ∧ (∀ l x, Ex.zc l x = [] → x = []) ∧
    Writer.DecisionsOK Ex.cfg Ex.inp Ex.dec ∧ Writer.codesOK Ex.inp ∧ NamesDistinct Ex.inp :=
  ⟨Ex.hyps.2.2.2.1, Ex.hyps.2.2.2.2, Ex.hyps.1, Ex.hyps.2.1, Ex.hyps.2.2.1⟩

end Written

end Ragc.Props.C08
