import RagcModel.Lemmas.Container
/-!
C14 — a partially written (or otherwise malformed) archive is rejected cleanly: container level.

`openBytes env bs` is `Archive::open` (input mode) on a file with contents `bs`, with outcomes
`ok | err | panic site | alloc n` (`alloc n`: a buffer of `n > |bs|` bytes is requested), in the
dev/test reading (`env.checked = true`, overflow checks panic) and the release reading
(`env.checked = false`, wrap-around). `env.seekMax` is the largest offset `lseek` accepts.

Full statement — FALSE for the code as it stands (defect D3), witnesses below:

    theorem open_total (env : Env) (bs : List Nat) :
        openBytes env bs = .err ∨ ∃ r, openBytes env bs = .ok r

(`alloc` is excluded by this statement, i.e. every buffer the open allocates is at most `|bs|`.)
-/
namespace Ragc.Props.C14
open Ragc.Varint Ragc.Container

/-- Negation witness, dev/test profile: an 8-byte file whose length field says 1.
`file_size - 8 - footer_size = 0 - 1` panics at archive.rs:382. -/
theorem open_total_false_checked :
    openBytes Env.dev [1, 0, 0, 0, 0, 0, 0, 0] = .panic "archive.rs:382" := rfl

/-- Negation witness, release profile: eight `0xFF` bytes. The wrapped footer offset is 1, the seek
succeeds and `vec![0u8; 2^64-1]` is requested (Rust: "capacity overflow" panic). -/
theorem open_total_false_release :
    openBytes Env.release (List.replicate 8 255) = .alloc (2 ^ 64 - 1) := by decide

/-- Negation witness on a real truncation, dev/test profile: the archive written by
`register "a"; add_part(0, [1,2,3], 5); close` (23 bytes, `arch-run r,61;a,0,010203,5`), cut after
12 bytes, panics at archive.rs:382; so does almost every other strict prefix of ≥ 8 bytes. -/
theorem truncation_panics_checked :
    openBytes Env.dev
      ([1, 5, 1, 2, 3, 1, 1, 97, 0, 1, 1, 0, 0, 1, 3, 10, 0, 0, 0, 0, 0, 0, 0].take 12)
      = .panic "archive.rs:382" := rfl

/-- The same truncation in the release profile happens to be rejected (the wrapped offset is
≥ 2^63 and `lseek` fails) … -/
theorem truncation_err_release :
    openBytes Env.release
      ([1, 5, 1, 2, 3, 1, 1, 97, 0, 1, 1, 0, 0, 1, 3, 10, 0, 0, 0, 0, 0, 0, 0].take 12)
      = .err := by decide

/-- … but not every truncation is: the archive `register "a"; add_part(0, [1], u64::MAX); close`
cut after 9 bytes ends in eight `0xFF` bytes (the metadata varint) and requests a buffer of
2^64-1 bytes in the release profile. -/
theorem truncation_allocs_release :
    openBytes Env.release
      ([8, 255, 255, 255, 255, 255, 255, 255, 255, 1, 1, 1, 97, 0, 1, 1, 0, 0, 1, 1,
        10, 0, 0, 0, 0, 0, 0, 0].take 9)
      = .alloc (2 ^ 64 - 1) := by decide

/-- Second panic site, dev/test profile only: a well-framed footer whose first varint has length
byte 255 overflows `no_bytes + 1` (u8) at varint.rs:58. -/
theorem varint_count_panics_checked :
    openBytes Env.dev (255 :: List.replicate 255 0 ++ [0, 1, 0, 0, 0, 0, 0, 0])
      = .panic "varint.rs:58" := by
  -- the file is the 256-byte footer followed by its length; the footer's first varint reads as 0
  have hv := readVarint_zeros 255 []
  rw [List.append_nil] at hv
  have h := openBytes_layout Env.dev [] (255 :: List.replicate 255 0) (by decide)
    (by rw [List.length_cons, List.length_replicate]; decide)
  rw [List.length_cons, List.length_replicate, parseFooter, readVarintO, hv] at h
  exact h

/-- Garbage-sized part buffer: a well-formed 23-byte file whose directory claims a part of 2^40
bytes opens fine, and reading that part requests a 1 TiB buffer (archive.rs:317), in both
profiles. -/
theorem part_alloc_unchecked :
    ∃ r, openBytes Env.release [0, 1, 1, 0, 1, 1, 0, 0, 6, 1, 0, 0, 0, 0, 0, 14, 0, 0, 0, 0, 0, 0, 0]
        = .ok r ∧ getPartById Env.release r 0 0 = .alloc (2 ^ 40) ∧
        getPartById Env.dev r 0 0 = .alloc (2 ^ 40) :=
  ⟨_, rfl, rfl, rfl⟩

/-- The clause "a strict prefix never opens" cannot hold for this format (no magic number, no
checksum) whatever range checks are added: the archive written by
`register "a"; add_part(0, [0,1,0,0,0,0,0,0,0,0xff], 5); flush; close` (30 bytes), cut after 11
bytes, *is* a well-formed archive with zero streams (length field 1, footer `[0]`). Accepted by
the code as it stands in both profiles and by the repaired reader. -/
theorem prefix_accepted_witness :
    let bs := [1, 5, 0, 1, 0, 0, 0, 0, 0, 0, 0, 255, 1, 1, 97, 0, 1, 1, 0, 0, 1, 10,
      10, 0, 0, 0, 0, 0, 0, 0].take 11
    openBytes Env.release bs = .ok ⟨bs, [], []⟩ ∧ openBytes Env.dev bs = .ok ⟨bs, [], []⟩ ∧
    openBytesFixed (2 ^ 63 - 1) bs = .ok ⟨bs, [], []⟩ := ⟨rfl, rfl, rfl⟩

/-- What does hold for the code as it stands. Hypothesis (exactly the missing range check): the
file is shorter than 8 bytes, or its length field satisfies `footer_size + 8 ≤ file_size`. Then in
both profiles and on every file system the open is `err` or `ok` — no arithmetic panic at
archive.rs:382 and no buffer larger than the file — except, with overflow checks on, the
byte-count overflow of `read_varint` (varint.rs:58) on a length byte of 255. -/
theorem open_total_partial (env : Env) (bs : List Nat)
    (h : bs.length < 8 ∨ leVal (bs.drop (bs.length - 8)) + 8 ≤ bs.length) :
    openBytes env bs = .err ∨ (∃ r, openBytes env bs = .ok r) ∨
      (env.checked = true ∧ openBytes env bs = .panic "varint.rs:58") := by
  have hs := safe_openBytes env bs h
  cases ho : openBytes env bs with
  | ok r => exact Or.inr (Or.inl ⟨r, rfl⟩)
  | err => exact Or.inl rfl
  | panic s => rw [ho] at hs; obtain ⟨h1, rfl⟩ := hs; exact Or.inr (Or.inr ⟨h1, rfl⟩)
  | alloc n => rw [ho] at hs; exact absurd hs (by simp [Safe])

/-- Non-vacuity: a complete archive meets the hypothesis (and opens); so does a 5-byte file. -/
example : let bs := [1, 5, 1, 2, 3, 1, 1, 97, 0, 1, 1, 0, 0, 1, 3, 10, 0, 0, 0, 0, 0, 0, 0]
    (bs.length < 8 ∨ leVal (bs.drop (bs.length - 8)) + 8 ≤ bs.length) ∧
    openBytes Env.dev bs = .ok ⟨bs, [⟨[97], 0, [⟨0, 3⟩]⟩], [0]⟩ := ⟨by decide, rfl⟩

/-- Release profile: under the same hypothesis the open is `err` or `ok`, nothing else. -/
theorem open_total_release_partial (seekMax : Nat) (bs : List Nat)
    (h : bs.length < 8 ∨ leVal (bs.drop (bs.length - 8)) + 8 ≤ bs.length) :
    openBytes ⟨false, seekMax⟩ bs = .err ∨ ∃ r, openBytes ⟨false, seekMax⟩ bs = .ok r := by
  rcases open_total_partial ⟨false, seekMax⟩ bs h with h | h | ⟨h, _⟩
  · exact Or.inl h
  · exact Or.inr h
  · cases h

example : openBytes ⟨false, 2 ^ 44⟩ [0, 0, 0, 0, 0, 0, 0, 0, 0] = .err := rfl

/-- **The repaired reader is total**: for ALL byte strings and every file system, `openBytesFixed`
(footer_size ≤ file_size - 8 checked before the subtraction; every part `offset + size ≤
file_size`; `read_varint` counting in `usize`) returns `ok` or `err` — no panic, no buffer larger
than the file. -/
theorem openFixed_total (seekMax : Nat) (bs : List Nat) :
    openBytesFixed seekMax bs = .err ∨ ∃ r, openBytesFixed seekMax bs = .ok r :=
  (safe_false_iff _).mp (safe_openBytesFixed seekMax bs)

set_option maxRecDepth 8192 in
/-- The witnesses above are rejected by the repaired reader (the 255-length varint no longer
panics: it decodes to 0 streams, an empty archive); a complete archive still opens. -/
example : openBytesFixed (2 ^ 63 - 1) [1, 0, 0, 0, 0, 0, 0, 0] = .err ∧
    openBytesFixed (2 ^ 63 - 1) (List.replicate 8 255) = .err ∧
    openBytesFixed (2 ^ 63 - 1) (255 :: List.replicate 255 0 ++ [0, 1, 0, 0, 0, 0, 0, 0])
      = .ok ⟨255 :: List.replicate 255 0 ++ [0, 1, 0, 0, 0, 0, 0, 0], [], []⟩ ∧
    openBytesFixed (2 ^ 63 - 1)
      [0, 1, 1, 0, 1, 1, 0, 0, 6, 1, 0, 0, 0, 0, 0, 14, 0, 0, 0, 0, 0, 0, 0] = .err ∧
    (∃ r, openBytesFixed (2 ^ 63 - 1)
      [1, 5, 1, 2, 3, 1, 1, 97, 0, 1, 1, 0, 0, 1, 3, 10, 0, 0, 0, 0, 0, 0, 0] = .ok r) := by
  refine ⟨rfl, by decide, ?_, rfl, ⟨_, rfl⟩⟩
  have hv := readVarint_zeros 255 []
  rw [List.append_nil] at hv
  have h := openBytesFixed_layout (2 ^ 63 - 1) [] (255 :: List.replicate 255 0)
    (by rw [List.length_cons, List.length_replicate]; decide) (by decide)
  rw [List.length_cons, List.length_replicate, parseFooter, readVarintFixed, hv] at h
  exact h

/-- … and so is every later read on a handle it returned: `get_part_by_id` and `get_part` (at any
cursor position, after any earlier reads) return `ok` or `err` and allocate at most `|bs|`. -/
theorem openFixed_reads_total (seekMax : Nat) (bs : List Nat) (r : Reader)
    (h : openBytesFixed seekMax bs = .ok r) (r' : Reader)
    (hr' : r'.file = r.file ∧ r'.dir = r.dir) (sid pid : Nat) :
    (getPartByIdFixed seekMax r' sid pid = .err ∨ ∃ b, getPartByIdFixed seekMax r' sid pid = .ok b) ∧
    ((getPartFixed seekMax r' sid).2 = .err ∨ ∃ b, (getPartFixed seekMax r' sid).2 = .ok b) ∧
    (getPartFixed seekMax r' sid).1.file = r.file ∧ (getPartFixed seekMax r' sid).1.dir = r.dir := by
  obtain ⟨hf, hp⟩ := openBytesFixed_ok h
  have hr : partsInFile r'.file.length r'.dir = true := by rw [hr'.1, hr'.2, hf]; exact hp
  have hg := safe_getPartFixed (seekMax := seekMax) hr sid
  exact ⟨(safe_false_iff _).mp (safe_getPartByIdFixed hr sid pid), (safe_false_iff _).mp hg.1,
    hg.2.1.trans hr'.1, hg.2.2.trans hr'.2⟩

example : ∃ r, openBytesFixed (2 ^ 63 - 1)
      [1, 5, 1, 2, 3, 1, 1, 97, 0, 1, 1, 0, 0, 1, 3, 10, 0, 0, 0, 0, 0, 0, 0] = .ok r ∧
    getPartByIdFixed (2 ^ 63 - 1) r 0 0 = .ok ([1, 2, 3], 5) :=
  ⟨_, rfl, rfl⟩

end Ragc.Props.C14
