import RagcModel.Lemmas.FileIO
/-!
C15 — write failures during `create` are reported, never swallowed.

Model: `Model/FileIO.lean` (`Sink` = the output file with a persistent write fault at byte offset
`limit`; `BufWriter`; `Arch.close`/`serialize`/`Drop`; `finalize`; `createRun` = `finalize` followed
by the destructors). All statements hold for every buffer capacity, every fault offset, every list
of chunks handed to `write_all` by `flush_buffers` and every footer (and every footer `Drop`'s
second `close` might produce). Helper lemmas: `Lemmas/FileIO.lean`.
-/
namespace Ragc.Props.C15
open Ragc.FileIO Ragc.Varint

/-- `finalize` returns `Ok` only if the file holds the complete archive — all parts, the footer and
its 8-byte length — and the writer has been closed. -/
theorem finalize_ok_complete (cap limit : Nat) (chunks : List Bytes) (footer : Bytes) (a : Arch)
    (h : finalize (Arch.create cap limit) chunks footer = (.ok, a)) :
    a.file = fullFile chunks footer ∧ a.writer = none ∧ (fullFile chunks footer).length ≤ limit := by
  have hs := finalize_create_step cap limit chunks footer
  rw [h] at hs
  exact ⟨hs.2.1, hs.1, hs.2.2⟩

example : finalize (Arch.create 4 100) [[1, 2], [3, 4, 5, 6, 7]] [9, 9]
    = (.ok, ⟨none, some ⟨100, [1, 2, 3, 4, 5, 6, 7, 9, 9, 2, 0, 0, 0, 0, 0, 0, 0]⟩⟩) := rfl

/-- After an `Err` from `finalize` the file is full: it holds exactly the first `limit` bytes of
the complete archive, and the complete archive is longer (a *strict* prefix — which `open` rejects,
C14). -/
theorem finalize_err_prefix (cap limit : Nat) (chunks : List Bytes) (footer : Bytes) (a : Arch)
    (h : finalize (Arch.create cap limit) chunks footer = (.err, a)) :
    a.file = (fullFile chunks footer).take limit ∧ limit < (fullFile chunks footer).length ∧
    ∃ w, a.writer = some w ∧ w.inner.limit = limit ∧ w.inner.contents.length = limit := by
  have hs := finalize_create_step cap limit chunks footer
  rw [h] at hs
  obtain ⟨w, hw, hf⟩ := hs
  exact ⟨(file_of_writer a w hw).trans hf.contents, hf.short, w, hw, hf.lim_eq,
    hf.full.trans hf.lim_eq⟩

example : finalize (Arch.create 4 8) [[1, 2], [3, 4, 5, 6, 7]] [9, 9]
    = (.err, ⟨some ⟨4, [9], ⟨8, [1, 2, 3, 4, 5, 6, 7, 9]⟩⟩, none⟩) := rfl

/-- `finalize` is total on a freshly created archive: `Ok` or `Err`, nothing else; and it is `Ok`
exactly when the complete archive fits below the fault offset. Hence: for every fault offset
`limit` smaller than the size of the complete archive — inside a part, inside the footer, inside
the 8-byte length — `create` returns an error. -/
theorem finalize_ok_iff (cap limit : Nat) (chunks : List Bytes) (footer : Bytes) :
    (finalize (Arch.create cap limit) chunks footer).1 = .ok ↔
      (fullFile chunks footer).length ≤ limit := by
  rcases hfin : finalize (Arch.create cap limit) chunks footer with ⟨r, a⟩
  cases r with
  | ok =>
    have := (finalize_ok_complete cap limit chunks footer a hfin).2.2
    simp [this]
  | err =>
    have := (finalize_err_prefix cap limit chunks footer a hfin).2.1
    simp only [reduceCtorEq, false_iff]; omega

/-- The write-fault form of the property: every first failing offset below the archive size makes
`finalize` (hence `create`, hence the exit status) report an error. -/
theorem finalize_limit_err (cap limit : Nat) (chunks : List Bytes) (footer : Bytes)
    (h : limit < (fullFile chunks footer).length) :
    (finalize (Arch.create cap limit) chunks footer).1 = .err := by
  have := finalize_ok_iff cap limit chunks footer
  cases hr : (finalize (Arch.create cap limit) chunks footer).1 with
  | err => rfl
  | ok => rw [hr] at this; have := this.mp rfl; omega

example : ∀ limit < 17, (finalize (Arch.create 4 limit) [[1, 2], [3, 4, 5, 6, 7]] [9, 9]).1 = .err :=
  fun limit h => finalize_limit_err 4 limit _ _ (by simpa [fullFile, le64, leBytes] using h)

/-- The whole run, destructors included (`Drop for Archive` calls `close` again and throws the
result away; `Drop for BufWriter` flushes once more): the file the process leaves behind is the
first `limit` bytes of the complete archive — the complete archive iff `finalize` returned `Ok` —
whatever the second `close` tried to append. -/
theorem createRun_file (cap limit : Nat) (chunks : List Bytes) (footer footerD : Bytes) :
    (createRun cap limit chunks footer footerD).2.2 = (fullFile chunks footer).take limit ∧
    ((createRun cap limit chunks footer footerD).1 = .ok ↔ (fullFile chunks footer).length ≤ limit) := by
  rcases createRun_spec cap limit chunks footer footerD with ⟨h, e⟩ | ⟨h, e1, e2⟩
  · rw [e]
    exact ⟨(List.take_of_length_le h).symm, fun _ => h, fun _ => rfl⟩
  · rw [e1, e2]
    exact ⟨rfl, fun h' => (nomatch h'), fun h' => absurd h' (Nat.not_le.mpr h)⟩

example : createRun 4 8 [[1, 2], [3, 4, 5, 6, 7]] [9, 9] [7]
    = (.err, .ioErr, [1, 2, 3, 4, 5, 6, 7, 9]) := rfl

/-- `Drop for Archive` swallows the result of `close`. That result is an I/O error only when
`finalize` has already returned an error (so the exit status is already non-zero); after a
successful `finalize` the writer is gone, the second `close` stops at "Archive not open for
writing" without touching the file. -/
theorem drop_swallows_only_after_error (cap limit : Nat) (chunks : List Bytes) (footer footerD : Bytes) :
    ((createRun cap limit chunks footer footerD).1 = .ok →
      (createRun cap limit chunks footer footerD).2.1 = .noWriter) ∧
    ((createRun cap limit chunks footer footerD).2.1 = .ioErr →
      (createRun cap limit chunks footer footerD).1 = .err) := by
  rcases createRun_spec cap limit chunks footer footerD with ⟨_, e⟩ | ⟨_, e1, _⟩
  · rw [e]
    exact ⟨fun _ => rfl, fun h' => (nomatch h')⟩
  · rw [e1]
    exact ⟨fun h' => (nomatch h'), fun _ => rfl⟩

example : (createRun 4 100 [[1, 2], [3, 4, 5, 6, 7]] [9, 9] [7]).2.1 = .noWriter := rfl

/-- Reported, never swallowed, in one statement: the run's result is `Ok` if and only if the file
left behind is the complete archive. -/
theorem ok_iff_complete (cap limit : Nat) (chunks : List Bytes) (footer footerD : Bytes) :
    (createRun cap limit chunks footer footerD).1 = .ok ↔
      (createRun cap limit chunks footer footerD).2.2 = fullFile chunks footer := by
  obtain ⟨hfile, hiff⟩ := createRun_file cap limit chunks footer footerD
  rw [hiff, hfile]
  constructor
  · intro h; exact List.take_of_length_le h
  · intro h
    have := congrArg List.length h
    rw [List.length_take] at this
    omega

example : (createRun 4 16 [[1, 2], [3, 4, 5, 6, 7]] [9, 9] []).1 = .err ∧
    (createRun 4 16 [[1, 2], [3, 4, 5, 6, 7]] [9, 9] []).2.2 ≠ fullFile [[1, 2], [3, 4, 5, 6, 7]] [9, 9] := by
  decide

end Ragc.Props.C15
