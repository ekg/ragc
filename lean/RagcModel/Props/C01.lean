import RagcModel.Gen.Tables
import RagcModel.Lemmas.Roundtrip
import RagcModel.Props.C02
import RagcModel.Props.C07
import RagcModel.Props.C09
import RagcModel.Props.C10
import RagcModel.Props.C12
import RagcModel.Lemmas.WriterBases
import RagcModel.Lemmas.WriterMain
/-!
# C01 — lossless round trip: create then extract returns every sample exactly

The writer is modelled in layers whose interfaces are ordinary data, and the theorems compose the
layers that carry the *bases* of one contig from the input to the reader:

  segmentation (C10)  →  split decisions  →  orientation flags  →  storage form
      (raw entry | reference part | LZ entry; pack layout; part framing; ZSTD as a parameter)
  →  the reader's inverse of each (C12, C09, C02 `unpack_pack`)  →  undo orientation (C07)
  →  `reconstruct_contig` (C07).

The writer's grouping HEURISTICS — which group a piece joins (hence which reference it is encoded
against), whether it is stored reverse-complemented, whether and where a segment is split, which
other entries share its pack, tuple packing or not — are **universally quantified decisions**, not
modelled algorithms: `contig_roundtrip` holds for every value they could return.

What remains outside these theorems, and what covers it:

* the catalogue (sample / contig names, descriptor tables, 50-sample batches): C03;
* the container (stream directory, part offsets): C13 (and C14 for damaged files);
* id ↦ (pack, entry) bookkeeping of `flush_pack_compress_only`: `Props.C02.packs_addressing`;
* FASTA parsing and letter ↔ code mapping: C19/C16;
* that the real writer's decisions are inside the quantified range and that the glue between the
  layers (registration of each piece under the descriptor that points at its entry) is what the
  model says: not proved; it is checked on every generated archive by the independent decoder's
  `violations` (C02 harness) and by the oracle extract = input (C01 harness).

## The reference writer and the end-to-end statement

`Model/Writer.lean` defines `writeArchive cfg inp dec zc`, a whole-archive reference writer composed
from the layer models, with every heuristic / scheduling choice of the compressor as data
(`Decisions`), and the decidable `DecisionsOK`. The C02 harness shows that every real archive it
generates IS an instance: the decisions read off the archive make `writeArchive` reproduce the file
byte for byte. `read_write` (end of this file) is the END-TO-END theorem about it: for ALL
well-formed decisions, all inputs over the literal codes, every `k ≥ 1`, any ZSTD with the two C12
facts, the independent decoder reads the bytes of the reference writer and returns exactly the
input's catalogue and bases with an empty list of breached format rules. Its stages are theorems
of their own in `Props/C02.lean` (`read_write_container`, `read_write_catalogue`,
`read_write_groups`) and here (`pieces_tile`, `read_write_bases`, `read_write_samples`).
-/
namespace Ragc.Props.C01
open Ragc.Segment Ragc.Range Ragc.Packs Ragc.Roundtrip

/-- `rc^f (rc^f d) = d` for the decompressor's rule, on arbitrary codes (IUPAC codes, the
unknown-letter code 30, anything a byte can hold): what the reader does to a segment stored with
flag `f` undoes what the writer did. -/
theorem orientation_roundtrip (f : Bool) (d : List Nat) : orient f (orient f d) = d :=
  orient_involutive f d

example : orient true (orient true [0, 1, 2, 3, 4, 11, 30]) = [0, 1, 2, 3, 4, 11, 30] ∧
    orient true [0, 1, 2, 3, 4, 11, 30] = [30, 11, 4, 0, 1, 2, 3] := by decide

/-- The writer's `reverse_complement_sequence` (used on split halves and whole-segment
re-assignment) is the same function as the reader's `reverse_complement_segment`. (Before the
repair of defect D1 it mapped every code ≥ 4 to 4 and this statement was false: `[5] ↦ [4]`.) -/
theorem writer_rc_is_reader_rc (s : List Nat) :
    reverseComplementSequence s = reverseComplementSegment s := rfl

example : reverseComplementSequence [5, 0] = [3, 5] := by decide

/-- `split_segment_at_position`: the halves are `data[..s+k]` and `data[s..]` for
`s = split_pos.saturating_sub((k+1)/2)`, and the call panics exactly when `s + k > len`. -/
theorem split_at_position_spec (data : List Nat) (pos k : Nat) :
    splitSegmentAtPosition data pos k =
      if pos - (k + 1) / 2 + k ≤ data.length then
        some (data.take (pos - (k + 1) / 2 + k), data.drop (pos - (k + 1) / 2))
      else none := rfl

example : splitSegmentAtPosition [0, 1, 2, 3, 0, 1, 2, 3, 0, 1] 5 3 = some ([0, 1, 2, 3, 0, 1], [3, 0, 1, 2, 3, 0, 1]) := by
  decide

/-- **Splitting preserves the tiling.** Take any tiling of a contig into `k`-overlapping pieces
and any piece `p` of it (in contig orientation). Let the writer hold it in either stored
orientation (`should_reverse` arbitrary), split it with `split_segment_at_position` at ANY position
for which that call does not panic, re-orient each half by ANY pair of flags and number the parts
as the code does (swapped when `should_reverse`). Then what the reader makes of the two buffered
halves (undo each flag, order by part number), put in place of `p`, is again a tiling of the same
contig. -/
theorem split_at_position_tiles (k : Nat) (c : List Nat) (pre post : List (List Nat)) (p : List Nat)
    (pos : Nat) (sr lf rf : Bool) (hs : Half × Half)
    (ht : Tiles k c (pre ++ p :: post))
    (h : splitStored (orient sr p) pos k sr lf rf = some hs) :
    Tiles k c (pre ++ readHalves hs ++ post) := by
  obtain ⟨h1, h2⟩ := hs
  obtain ⟨s, hle, hread⟩ := splitStored_spec p pos k sr lf rf h1 h2 h
  rw [hread]
  simpa using tiles_split k c s p pre post hle ht

-- a piece of 10 symbols held reverse-complemented, split at position 5 with k = 3, both halves
-- re-oriented again: the reader sees the two overlapping halves in contig order
example :
    (splitStored (orient true [0, 1, 2, 3, 0, 1, 2, 3, 0, 1]) 5 3 true false false).map readHalves
      = some [[0, 1, 2, 3, 0, 1, 2], [0, 1, 2, 3, 0, 1]] := by decide

/-- **Each storage form reads back as the identity.** For any ZSTD with the two C12 facts, any
piece `x` (non-empty, codes inside the LZ literal range — ragc's codes 0..15, 30 are, see
`Props.C09.ragc_codes_ok`), stored as a raw-group entry (with or without the placeholder, among any
splittable neighbours), as a reference part (tuple-packed or plain, compressed or raw fallback),
or as an LZ entry against ANY reference with ANY candidate supplier for which the encoder answers:
unframing the part by its metadata, splitting the pack, taking the addressed entry and LZ-decoding
returns `x`. Composition of C12 (`stored_pack_roundtrip`, `ref_roundtrip`), C02 (`unpack_pack`,
`lz_entry_decodes`) and C09. -/
theorem storage_form_roundtrip (zc : Nat → List Nat → List Nat) (zd : List Nat → Option (List Nat))
    (hz : ∀ l x, zd (zc l x) = some x) (hne : ∀ l x, zc l x = [] → x = [])
    (mm level : Nat) (fm : Form) (x : List Nat)
    (hx : x ≠ []) (hc : ∀ b ∈ x, b ≤ Ragc.Gen.lzLiteralSpan) (hok : fm.OK mm x) :
    storeRead zc zd mm level fm x = some x := by
  -- an entry without `0xFF` between splittable neighbours: the pack is splittable
  have hall : ∀ (b a : List (List Nat)) (y : List Nat), NoSep b → NoSep a → 255 ∉ y →
      ∀ e ∈ b ++ y :: a, 255 ∉ e := by
    intro b a y hb ha hy e he
    rcases List.mem_append.mp he with he | he
    · exact hb e he
    · rcases List.mem_cons.mp he with rfl | he
      · exact hy
      · exact ha e he
  cases fm with
  | raw ph b a =>
    have hxs : 255 ∉ x := fun hm => absurd (hc 255 hm) (by decide)
    have hsplit := hall b a x hok.1 hok.2 hxs
    unfold storeRead writePack
    simp only []
    rw [Ragc.Props.C12.stored_pack_roundtrip zc zd hz hne level, Option.bind_some]
    cases ph with
    | false =>
      rw [if_neg Bool.false_ne_true, if_neg Bool.false_ne_true, Nat.add_zero,
        Ragc.Props.C02.unpack_pack _ _ hsplit (by simp)]
      simp
    | true =>
      rw [if_pos rfl, if_pos rfl,
        (Ragc.Props.C02.unpack_pack_raw (b ++ x :: a) b.length hsplit (by simp)).2]
      simp
  | ref t =>
    exact Ragc.SegCompress.unframe_frame zd _ _ x (Ragc.Props.C12.ref_roundtrip zc zd hz hne t x)
  | lz S r b a =>
    obtain ⟨hb, ha, hsome⟩ := hok
    obtain ⟨enc, henc⟩ := Option.isSome_iff_exists.mp hsome
    obtain ⟨hdec, _, hno⟩ := Ragc.Props.C02.lz_entry_decodes S mm r x enc hc hx henc
    unfold storeRead writePack
    simp only [henc, Bool.false_eq_true, if_false]
    rw [Ragc.Props.C12.stored_pack_roundtrip zc zd hz hne level, Option.bind_some,
      Ragc.Props.C02.unpack_pack _ _ (hall b a enc hb ha hno) (by simp)]
    simp [hdec]

private def zcToy : Nat → List Nat → List Nat := fun l x => l :: x
private def zdToy : List Nat → Option (List Nat) := fun c => some c.tail

example : storeRead zcToy zdToy 5 17 (.raw true [[1, 2]] [[3]]) [0, 1, 2, 3, 30]
    = some [0, 1, 2, 3, 30] :=
  storage_form_roundtrip zcToy zdToy (fun _ _ => rfl) (fun _ _ h => nomatch h) 5 17 _ _
    (by decide) (by decide) ⟨by unfold NoSep; decide, by unfold NoSep; decide⟩
example : storeRead zcToy zdToy 5 17 (.ref true) [0, 1, 2, 3, 0, 1, 2, 3, 0] = some [0, 1, 2, 3, 0, 1, 2, 3, 0] :=
  storage_form_roundtrip zcToy zdToy (fun _ _ => rfl) (fun _ _ h => nomatch h) 5 17 _ _
    (by decide) (by decide) trivial

/-- **C01 for the bases of one contig.** For every contig over the LZ literal codes, every
`k ≥ 1`, every splitter predicate and either segmenter (`ws`), with any window tracker satisfying
the C10 window condition (the real `Kmer` does, `Props.C10` part 2):

1. segment the contig with C10's model;
2. apply ANY list of split decisions `(piece index, start of the right half)` — each is applied when
   it is in the range where `split_segment_at_position` does not panic (see
   `split_at_position_tiles` for the orientation / part-number bookkeeping of a split), halves may
   be split again;
3. give every resulting piece ANY orientation flag and ANY storage form (`choices`): raw entry,
   reference part, or LZ entry against any reference — with any neighbours in its pack;
4. write, read back as the format says, undo the orientation flag: every piece comes back
   (`mapM readBack = some pieces`), and
5. `reconstruct_contig` on the read pieces (with descriptors `raw_length` = decoded length, as the
   writer registers them) returns exactly the input contig.

`zc`/`zd` is any ZSTD with the two facts of C12. -/
theorem contig_roundtrip (zc : Nat → List Nat → List Nat) (zd : List Nat → Option (List Nat))
    (hz : ∀ l x, zd (zc l x) = some x) (hne : ∀ l x, zc l x = [] → x = [])
    (mm level : Nat)
    {σ : Type} {T : Tracker σ} {k : Nat} {R : σ → Nat → Prop} (hT : T.Window k R) (init : σ)
    (h0 : R init 0) (isSplitter : UInt64 → Bool) (ws : Bool) (contig : List UInt8) (hk : 1 ≤ k)
    (hcne : contig ≠ []) (hcodes : ∀ b ∈ contig, b.toNat ≤ Ragc.Gen.lzLiteralSpan)
    (segs : List Segment) (hseg : splitGeneric T init isSplitter ws k contig = some segs)
    (splits : List (Nat × Nat)) (choices : List (Bool × Form))
    (pieces : List (List Nat))
    (hpieces : pieces = applySplits k (segs.map fun s => s.data.map UInt8.toNat) splits)
    (hlen : choices.length = pieces.length)
    (hok : ∀ i (h : i < choices.length), choices[i].2.OK mm (orient choices[i].1 (pieces[i]'(by omega)))) :
    (List.zip choices pieces).mapM (readBack zc zd mm level) = some pieces ∧
      reconstruct k (pieces.map fun d => (⟨d.length, d⟩ : Seg)) = some (contig.map UInt8.toNat) := by
  have ht : Tiles k (contig.map UInt8.toNat) pieces := by
    have ht1 := tiles_map UInt8.toNat k contig _
      (Ragc.Props.C10.split_tiles hT init h0 isSplitter ws contig hk segs hseg)
    rw [List.map_map] at ht1
    rw [hpieces]
    exact applySplits_tiles k _ splits _ ht1
  refine ⟨?_, ?_⟩
  · -- every piece is non-empty and over the literal codes, so its storage form reads back
    have hpne := Ragc.Segment.tiles_nonempty k hk _ _ ht (by simpa using hcne)
    have hpc : ∀ p ∈ pieces, ∀ x ∈ p, x ≤ Ragc.Gen.lzLiteralSpan := by
      intro p hp x hx
      obtain ⟨b, hb, rfl⟩ := List.mem_map.mp (tiles_mem k _ _ ht p hp x hx)
      exact hcodes b hb
    rw [mapM_some_of_forall (readBack zc zd mm level) Prod.snd, List.map_snd_zip (by omega)]
    intro x hx
    obtain ⟨i, hi, rfl⟩ := List.getElem_of_mem hx
    simp only [List.length_zip] at hi
    have hic : i < choices.length := by omega
    have hip : i < pieces.length := by omega
    have hmem : pieces[i] ∈ pieces := List.getElem_mem hip
    have hx1 : orient choices[i].1 pieces[i] ≠ [] := fun hc =>
      hpne _ hmem (List.eq_nil_of_length_eq_zero (by rw [← orient_length choices[i].1, hc]; rfl))
    have hx2 : ∀ b ∈ orient choices[i].1 pieces[i], b ≤ Ragc.Gen.lzLiteralSpan :=
      orient_mem_le _ _ _ (by decide) (hpc _ hmem)
    simp only [List.getElem_zip, readBack,
      storage_form_roundtrip zc zd hz hne mm level _ _ hx1 hx2 (hok i hic), Option.map_some,
      orient_involutive]
  · obtain ⟨hwf, hfull⟩ := Ragc.WriterLemmas.views_of_tiles k _ pieces ht
    rw [Ragc.Props.C07.reconstruct_eq_full k _ hwf.2, hfull]

/-- Non-vacuity: the `k = 3` example contig of C10 (`ACAN CCACGGGACT`, with an `N`), segmented at
its three splitters by the real `Kmer` tracker, first segment split again at 2, the four pieces
stored reverse-complemented / forward as raw entries (with and without placeholder) and as
tuple-packed / plain references. -/
private def exPieces : List (List Nat) :=
  [[0, 1, 0, 4, 1], [0, 4, 1, 1, 0, 1, 2], [0, 1, 2, 2, 2, 0, 1], [2, 0, 1, 3]]
private def exChoices : List (Bool × Form) :=
  [(true, .raw true [] []), (false, .ref true), (true, .ref false), (false, .raw false [[7]] [])]

example : (List.zip exChoices exPieces).mapM (readBack zcToy zdToy 5 17) = some exPieces ∧
    reconstruct 3 (exPieces.map fun d => (⟨d.length, d⟩ : Seg)) = some (exContig.map UInt8.toNat) :=
  contig_roundtrip zcToy zdToy (fun _ _ => rfl) (fun _ _ h => nomatch h) 5 17
    (kmer_window 3) _ (kmer_init 3) exSpl true exContig (by decide) (by decide) (by decide)
    exSegsWs ex_ws_generic [(0, 2)] exChoices exPieces (by decide) (by decide)
    (by
      intro i h
      match i, h with
      | 0, _ => exact ⟨by unfold NoSep; decide, by unfold NoSep; decide⟩
      | 1, _ => trivial
      | 2, _ => trivial
      | 3, _ => exact ⟨by unfold NoSep; decide, by unfold NoSep; decide⟩
      | n + 4, h => exact absurd h (by simp [exChoices]))

example : exContig.map UInt8.toNat = [0, 1, 0, 4, 1, 1, 0, 1, 2, 2, 2, 0, 1, 3] ∧
    orient true [0, 1, 0, 4, 1] = [2, 4, 3, 2, 3] := by decide

/-! ### per-base reverse-complement rules translated from the source (translator tie)

`tools/gen_tables.py` translates, on every run, the per-base closures of the three places that
reverse-complement segment data — the worker's precomputed `data_rc`, the classifier's
`reverse_complement_sequence` (used on split halves) and the reader's
`reverse_complement_segment` — from the Rust text into `Ragc.Gen.*RcBase`. The theorem says all
three are the rule the model uses (`Range.complementBase`: complement A/C/G/T, keep every other
code). Before repair D1 the writer's rule was `kmerRcBase` (every code ≥ 4 ↦ 4) and this statement
was false (`writerRcBase 5 = 4`); a regression of that kind breaks this obligation. -/
theorem rc_rules_agree (b : Nat) :
    Ragc.Gen.writerRcBase b = Ragc.Range.complementBase b ∧
    Ragc.Gen.workerRcBase b = Ragc.Range.complementBase b ∧
    Ragc.Gen.readerRcBase b = Ragc.Range.complementBase b := by
  -- writer and reader have the model's expression; the worker's table agrees on 0..3 and is the
  -- identity above
  refine ⟨rfl, ?_, rfl⟩
  match b with
  | 0 | 1 | 2 | 3 => rfl
  | b + 4 => rfl

/-- the k-mer rule (`kmer.rs reverse_complement`) differs from it exactly on codes ≥ 4. -/
theorem kmer_rc_differs_on_iupac :
    (∀ b, b < 4 → Ragc.Gen.kmerRcBase b = Ragc.Range.complementBase b) ∧
    Ragc.Gen.kmerRcBase 5 = 4 ∧ Ragc.Range.complementBase 5 = 5 := by
  decide

/-- The piece lengths that `DecisionsOK` accepts for a contig (`Writer.tilesB`) cut it into a
`k`-overlapping tiling: segmentation at splitters (C10 `split_tiles`) and every split of a segment
(`split_at_position_tiles`) produce such lengths, and nothing else is needed of them. -/
theorem pieces_tile (k : Nat) (c : List Nat) (lens : List Nat)
    (h : Ragc.Writer.tilesB k c.length lens = true) :
    Tiles k c (Ragc.Writer.cutPieces k c lens) ∧
      (Ragc.Writer.cutPieces k c lens).map List.length = lens :=
  ⟨Ragc.WriterLemmas.cutPieces_tiling k c lens h, Ragc.WriterLemmas.cutPieces_lengths k c lens h⟩

example : Ragc.Writer.tilesB 3 10 [6, 7] = true ∧
    Ragc.Writer.cutPieces 3 [0, 1, 2, 3, 0, 1, 2, 3, 0, 1] [6, 7] = [[0, 1, 2, 3, 0, 1], [3, 0, 1, 2, 3, 0, 1]] := by
  decide

open Ragc.Writer Ragc.WriterLemmas Ragc.Agc3 in
/-- **The bases of every contig come back.** For every configuration with `k ≥ 1`, every input
over the LZ literal codes, ALL well-formed decisions (`DecisionsOK`: any tiling of each contig, any
group / orientation per piece, any arrival order inside each group, any group creation order, any
tuple flags), and any `zc`: let `outs` be what the reference writer stores for the groups
(`writeGroups`, the first stage of `writeArchive`). If the decoder's group table `gds` holds, for
every group, what the group's plan says — which is what `decodeGroup` produces from the group's
two streams (`Props.C02.group_roundtrip`) — then for every contig of every sample, `decodeContig`
on the descriptors the writer registers for it (`descOf`: group, in-group id from the `Packs`
machine, flag, raw length) returns the SAME violation accumulator and exactly the contig's bases.

Composition of: the tiling (`pieces_tile`), the piece ↔ group consistency of `DecisionsOK`,
`read_write_segments` (C02 `packs_addressing`, C09), orientation (`orientation_roundtrip`) and
`reconstruct_contig` (C07). -/
theorem read_write_bases (cfg : Cfg) (inp : List Sample) (dec : Decisions) (zc : Nat → List Nat → List Nat)
    (outs : List GroupOut) (hok : DecisionsOK cfg inp dec) (hcodes : codesOK inp)
    (hw : writeGroups cfg zc (storedAll cfg.k inp dec) dec.groups = some outs)
    (gds : Array GroupD)
    (hgds : ∀ G ∈ dec.groups, ∀ datas P, G.members.mapM (lookup3 (storedAll cfg.k inp dec)) = some datas →
      planGroup cfg.minMatch G datas = some P → ∃ GD, Ragc.Agc3.findGroup gds G.id = some GD ∧ GDMatches GD P)
    (s c : Nat) (smp : Sample) (ctg : Contig) (dcs : List (List PieceDec)) (ds : List PieceDec)
    (h1 : inp[s]? = some smp) (h2 : smp.contigs[c]? = some ctg) (h3 : dec.pieces[s]? = some dcs)
    (h4 : dcs[c]? = some ds) (sampleName contigName : List Nat) (a : Acc) :
    decodeContig cfg.k cfg.minMatch gds sampleName a (contigName, ds.map (descOf outs))
      = (a, ⟨contigName, ds.map (descOf outs), ctg.data⟩) :=
  contig_bases cfg inp dec zc outs (decOK_of cfg inp dec hok) hcodes hw gds hgds s c smp ctg dcs ds
    h1 h2 h3 h4 sampleName contigName a

/-- Non-vacuity: one sample, a contig of 10 symbols cut into two 3-overlapping pieces (the first is
the reference of LZ group 16, the second joins raw group 0 reverse-complemented) and a contig of 3
symbols (raw group 0): the decisions are well formed, the input is over the codes, and the
reference writer stores the groups. -/
private def exCfg : Ragc.Writer.Cfg := ⟨3, 5, 10, 17⟩
private def exInp : List Ragc.Writer.Sample :=
  [⟨[83], [⟨[99], [0, 1, 2, 3, 0, 1, 2, 3, 0, 1]⟩, ⟨[100], [2, 4, 1]⟩]⟩]
private def exDec : Ragc.Writer.Decisions :=
  ⟨[[[⟨6, 16, 0, false⟩, ⟨7, 0, 0, true⟩], [⟨3, 0, 1, false⟩]]],
   [⟨16, false, [(0, 0, 0)]⟩, ⟨0, false, [(0, 0, 1), (0, 1, 0)]⟩]⟩

example : Ragc.Writer.DecisionsOK exCfg exInp exDec ∧ Ragc.Writer.codesOK exInp ∧
    (Ragc.Writer.writeGroups exCfg zcToy (Ragc.Writer.storedAll exCfg.k exInp exDec) exDec.groups).isSome = true ∧
    Ragc.Writer.catalogueOf exInp = [([83], [[99], [100]])] := by
  decide +kernel

open Ragc.Writer Ragc.WriterLemmas Ragc.Agc3 in
/-- **All samples come back: catalogue and bases.** Same hypotheses as `read_write_bases`. The
decoder's last stage `decodeSamples`, run on the sample names and on the per-sample tables
`contig name ↦ descriptors` that the writer's catalogue holds (`Writer.catalogue`, C03 gives these
tables back from the collection streams), returns the SAME violation accumulator and samples whose
catalogue is `catalogueOf inp` and whose bases are `basesOf inp` — exactly the last three
conjuncts of the target `read_write`, from the decoded catalogue and group table on. -/
theorem read_write_samples (cfg : Cfg) (inp : List Sample) (dec : Decisions) (zc : Nat → List Nat → List Nat)
    (outs : List GroupOut) (hok : DecisionsOK cfg inp dec) (hcodes : codesOK inp)
    (hw : writeGroups cfg zc (storedAll cfg.k inp dec) dec.groups = some outs)
    (gds : Array GroupD)
    (hgds : ∀ G ∈ dec.groups, ∀ datas P, G.members.mapM (lookup3 (storedAll cfg.k inp dec)) = some datas →
      planGroup cfg.minMatch G datas = some P → ∃ GD, Ragc.Agc3.findGroup gds G.id = some GD ∧ GDMatches GD P)
    (a : Acc) :
    ∃ samples : List DSample,
      decodeSamples cfg.k cfg.minMatch gds (inp.map (·.name))
        (List.zipWith (fun s dcs => tableOf outs s.contigs dcs) inp dec.pieces).toArray a = (a, samples.toArray) ∧
      samples.map (fun s => (s.name, s.contigs.map (·.name))) = catalogueOf inp ∧
      samples.map (fun s => s.contigs.map (·.bases)) = basesOf inp := by
  have hd := decOK_of cfg inp dec hok
  exact ⟨_, decodeSamples_ok cfg inp dec zc outs hd hcodes hw gds hgds a,
    (expected_samples cfg inp dec outs hd).1, (expected_samples cfg inp dec outs hd).2⟩

example : Ragc.Writer.basesOf exInp = [[[0, 1, 2, 3, 0, 1, 2, 3, 0, 1], [2, 4, 1]]] ∧
    Ragc.WriterLemmas.tableOf [⟨16, none, [], [0]⟩, ⟨0, none, [], [1, 2]⟩] (exInp.map (·.contigs)).flatten
      (exDec.pieces.flatten) =
      [([99], [⟨16, 0, false, 6⟩, ⟨0, 1, true, 7⟩]), ([100], [⟨0, 2, false, 3⟩])] := by decide

open Ragc.Writer Ragc.Agc3 in
/-- **decode ∘ write = id.** For EVERY configuration, input and decision vector that is well
formed (`DecisionsOK cfg inp dec`, decidable: `k ≥ 1`; `k`, `min_match_len`, `segment_size` are
`u32` with `segment_size + k ≤ 2^31`; fewer than `2^32` samples / contigs per sample / pieces per
contig; names over the bytes 1..127; contigs non-empty and shorter than 4 GiB; the piece lengths
of every contig tile it with `k`-overlaps; group ids distinct `u32`s, every group has between 1 and
`2^31 - 2` members; pieces and groups point at each other), every input over the LZ literal codes
(`codesOK`: ragc's 0..15, 30, 32 are), and ANY ZSTD pair with the two facts of C12
(`zd ∘ zc = some`, frames never empty): if the reference writer answers (`writeArchive … = some
bs`: it does unless `min_match_len < 4`, a part/stream size leaves `u64`/`u32`, or the file
exceeds `2^63 - 1` bytes), then the INDEPENDENT decoder reads `bs` and

* its catalogue (sample names with their contig names, in order) is the input's,
* the bases of every contig are the input's,
* its list of breached format rules is EMPTY (C02: fixed streams, file version, params, batch
  sizes, stream names, one reference part per LZ group, metadata convention, pack cardinality,
  final separator, placeholder, unused groups, id ↦ (pack, entry) addressing, raw lengths, `≥ k`).

ALL decisions: any tiling of each contig (segmentation and splits), any group and orientation per
piece, any arrival order inside each group (the first member of an LZ group is its reference),
any group creation order, any tuple-packing flags. No bound `k ≥ 3` is needed: the independent
decoder has no "2-bit packed?" heuristic (that heuristic is in ragc's own reader, C08's business).
The hypotheses that the composition forced beyond the original brief are all inside `DecisionsOK`
(the C03 bounds: names 1..127, `u32` counts, ids below `2^31`, lengths below `2^32`).

Proof: `Props.C02.read_write_container` (C13) → fixed streams → `read_write_catalogue` (C03) →
`read_write_groups` (C12, C02 `packs_addressing`, pack splitter) → `read_write_samples`
(C09, C07, tiling). -/
theorem read_write (cfg : Cfg) (inp : List Sample) (dec : Decisions)
    (zc : Nat → List Nat → List Nat) (zd : List Nat → Option (List Nat)) (bs : List Nat)
    (hdec : DecisionsOK cfg inp dec) (hz : ∀ l x, zd (zc l x) = some x) (hne : ∀ l x, zc l x = [] → x = [])
    (hcodes : codesOK inp) (hw : writeArchive cfg inp dec zc = some bs) :
    ∃ d, decodeArchive bs zd = .ok d ∧ d.catalogue = catalogueOf inp ∧ d.bases = basesOf inp ∧
      d.violations = [] := by
  obtain ⟨d, h1, h2, h3, h4, _⟩ := Ragc.WriterLemmas.read_write_main cfg inp dec zc zd bs hdec hz hne hcodes hw
  exact ⟨d, h1, h2, h3, h4⟩

/-- Non-vacuity, evaluated: two samples; `k = 3`, `min_match_len = 10`. Sample `A` has a contig of
10 symbols cut into two 3-overlapping pieces and a contig of 3 symbols (with an `N`); sample `B`
has a contig that differs from `A`'s in one base. LZ group 16 holds the first piece of `A` (its
reference) and the first piece of `B` (a real delta, `ABCCAB`); raw group 0 holds the other three
pieces, one of them stored reverse-complemented. Toy ZSTD `zc l x = l :: x`, `zd = tail`. -/
private def exCfg2 : Ragc.Writer.Cfg := ⟨3, 10, 10, 17⟩
private def exInp2 : List Ragc.Writer.Sample :=
  [⟨[65], [⟨[99], [0, 1, 2, 3, 0, 1, 2, 3, 0, 1]⟩, ⟨[100], [2, 4, 1]⟩]⟩,
   ⟨[66], [⟨[99], [0, 1, 2, 2, 0, 1, 2, 3, 0, 1]⟩]⟩]
private def exDec2 : Ragc.Writer.Decisions :=
  ⟨[[[⟨6, 16, 0, false⟩, ⟨7, 0, 0, true⟩], [⟨3, 0, 1, false⟩]], [[⟨6, 16, 1, false⟩, ⟨7, 0, 2, false⟩]]],
   [⟨16, false, [(0, 0, 0), (1, 0, 0)]⟩, ⟨0, false, [(0, 0, 1), (0, 1, 0), (1, 0, 1)]⟩]⟩

example : Ragc.Writer.DecisionsOK exCfg2 exInp2 exDec2 ∧ Ragc.Writer.codesOK exInp2 ∧
    (∀ l x, zdToy (zcToy l x) = some x) ∧ (∀ l x, zcToy l x = [] → x = []) :=
  have h := Ragc.ReaderLink.Ex.hyps
  ⟨h.1, h.2.1, h.2.2.2⟩

-- This input is `ReaderLink.Ex`, where "the writer answers" and the hypotheses of `read_write` are
-- evaluated once: the decoder returns both samples with all bases, no violation.
set_option maxRecDepth 100000 in
example : ∃ bs d, Ragc.Writer.writeArchive exCfg2 exInp2 exDec2 zcToy = some bs ∧
    Ragc.Agc3.decodeArchive bs zdToy = .ok d ∧
    d.catalogue = [([65], [[99], [100]]), ([66], [[99]])] ∧
    d.bases = [[[0, 1, 2, 3, 0, 1, 2, 3, 0, 1], [2, 4, 1]], [[0, 1, 2, 2, 0, 1, 2, 3, 0, 1]]] ∧
    d.violations = [] := by
  obtain ⟨bs, hbs⟩ := Ragc.ReaderLink.Ex.written
  have h := Ragc.ReaderLink.Ex.hyps
  obtain ⟨d, h1, h2, h3, h4⟩ :=
    read_write exCfg2 exInp2 exDec2 zcToy zdToy bs h.1 h.2.2.2.1 h.2.2.2.2 h.2.1 hbs
  exact ⟨bs, d, hbs, h1, h2, h3, h4⟩

end Ragc.Props.C01
