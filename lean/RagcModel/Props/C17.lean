import RagcModel.Lemmas.Cli
/-!
C17 — CLI extraction composes and exit codes tell the truth.

Model: `Model/Cli.lean` (`getset`, `getsetOld`, `listset`, `listctg`, `parseCapacity`,
`createDispatch`, `createExit`). The model is thin — it says which bytes go where and which exit
class results, taking the per-sample FASTA text as given — so these theorems mainly fix the
*composition* and the *exit-status* logic; the weight of C17 is on the differential run of the real
binary against this model. Helper lemmas: `Lemmas/Cli.lean` (`Archive.fasta a n` = what extracting
the single sample `n` prints, `Archive.known a n` = `n` is a sample of `a`).
-/
namespace Ragc.Props.C17
open Ragc.Cli

/-- A small archive used by the non-vacuity examples: three samples, prefix-related names
`s`, `s1`, `t`. -/
def demo : Archive :=
  ⟨[⟨[115], [([99, 49], [65, 67, 71, 84])]⟩,
    ⟨[115, 49], [([99, 50], [84, 84]), ([99, 51], [])]⟩,
    ⟨[116], [([120], [71])]⟩]⟩

def demoEnv : Env := ⟨some demo, true, true⟩

/-- `getset` with several sample names (all present, repeats allowed, any order) prints the
concatenation of the single-sample extractions in *request* order, exits 0, leaves no temp file;
with `-o` the same bytes are the complete content of the output file, whatever it held before. -/
theorem getset_concat (a : Archive) (oc : Bool) (ns : List Bytes) (fs : Fs)
    (hne : ns ≠ []) (hk : ∀ n ∈ ns, a.known n = true) :
    getset ⟨some a, oc, true⟩ ⟨ns, none⟩ .stdout fs =
      (.ok, { fs with stdout := fs.stdout ++ (ns.map a.fasta).flatten, temp := none }) ∧
    getset ⟨some a, true, true⟩ ⟨ns, none⟩ .file fs =
      (.ok, { fs with out := some (ns.map a.fasta).flatten, temp := none }) :=
  getset_all_known a oc ⟨ns, none⟩ ns fs (samplesToExtract_names a hne) hk

example : (getset demoEnv ⟨[[116], [115], [116]], none⟩ .stdout ⟨none, none, []⟩).2.stdout
    = [62, 120, 10, 71, 10] ++ [62, 99, 49, 10, 65, 67, 71, 84, 10] ++ [62, 120, 10, 71, 10] := by
  decide +kernel

/-- The literal form of the property: the multi-sample output equals the concatenation of the
outputs of the single-sample runs (stdout case; the `-o` case follows with `getset_stdout_eq_file`). -/
theorem getset_concat_singles (a : Archive) (oc : Bool) (ns : List Bytes) (t : File) (o : File)
    (hne : ns ≠ []) (hk : ∀ n ∈ ns, a.known n = true) :
    (getset ⟨some a, oc, true⟩ ⟨ns, none⟩ .stdout ⟨t, o, []⟩).2.stdout =
      (ns.map (fun n => (getset ⟨some a, oc, true⟩ ⟨[n], none⟩ .stdout ⟨t, o, []⟩).2.stdout)).flatten := by
  rw [(getset_concat a oc ns _ hne hk).1]
  show [] ++ (ns.map a.fasta).flatten = _
  rw [List.nil_append]
  congr 1
  apply List.map_congr_left
  intro n hn
  rw [(getset_concat a oc [n] _ (by simp) (by simpa using hk n hn)).1]
  simp

/-- `getset --prefix p` extracts exactly the samples whose name starts with `p`, in *archive*
order (positional names are ignored when a prefix is given), provided at least one matches and
sample names are distinct. -/
theorem getset_prefix (a : Archive) (oc : Bool) (p : Bytes) (names : List Bytes) (fs : Fs)
    (hd : (a.samples.map (·.name)).Nodup)
    (hm : (a.samples.filter (fun s => p.isPrefixOf s.name)) ≠ []) :
    getset ⟨some a, oc, true⟩ ⟨names, some p⟩ .stdout fs =
      (.ok, { fs with
        stdout := fs.stdout ++ ((a.samples.filter (fun s => p.isPrefixOf s.name)).map sampleFasta).flatten,
        temp := none }) ∧
    getset ⟨some a, true, true⟩ ⟨names, some p⟩ .file fs =
      (.ok, { fs with
        out := some ((a.samples.filter (fun s => p.isPrefixOf s.name)).map sampleFasta).flatten,
        temp := none }) := by
  have hs : samplesToExtract a ⟨names, some p⟩ = some (listSamplesWithPrefix a p) := by
    have hne : listSamplesWithPrefix a p ≠ [] := by
      rw [listSamplesWithPrefix_eq]; exact mt List.map_eq_nil_iff.mp hm
    exact if_neg (mt List.isEmpty_iff.mp hne)
  have hk : ∀ n ∈ listSamplesWithPrefix a p, a.known n = true := by
    intro n hn
    rw [listSamplesWithPrefix_eq, List.mem_map] at hn
    obtain ⟨s, hs, rfl⟩ := hn
    exact known_of_mem a s (List.mem_filter.mp hs).1
  have hf : (listSamplesWithPrefix a p).map a.fasta =
      (a.samples.filter (fun s => p.isPrefixOf s.name)).map sampleFasta := by
    rw [listSamplesWithPrefix_eq, List.map_map]
    apply List.map_congr_left
    intro s hs
    exact fasta_of_mem a hd s (List.mem_filter.mp hs).1
  have := getset_all_known a oc ⟨names, some p⟩ _ fs hs hk
  rwa [hf] at this

example : (getset demoEnv ⟨[[116]], some [115]⟩ .file ⟨none, some [1, 2, 3], []⟩).2.out
    = some ([62, 99, 49, 10, 65, 67, 71, 84, 10] ++ [62, 99, 50, 10, 84, 84, 10, 62, 99, 51, 10]) := by
  decide +kernel

/-- Any unknown name among the requested ones makes `getset` exit non-zero (status 1). What has
been written by then stays: exactly the samples *before the first unknown name*, in request order —
on stdout, or as the content of the (truncated and re-filled) `-o` file. Nothing of the samples
after it is written, and the temp file is removed. -/
theorem getset_unknown_fails (a : Archive) (oc : Bool) (ns : List Bytes) (fs : Fs)
    (hu : ∃ n ∈ ns, a.known n = false) :
    (getset ⟨some a, oc, true⟩ ⟨ns, none⟩ .stdout fs =
      (.err, { fs with stdout := fs.stdout ++ ((ns.takeWhile a.known).map a.fasta).flatten,
                       temp := none })) ∧
    (getset ⟨some a, true, true⟩ ⟨ns, none⟩ .file fs =
      (.err, { fs with out := some ((ns.takeWhile a.known).map a.fasta).flatten, temp := none })) ∧
    Exit.err.code ≠ 0 := by
  obtain ⟨n, hn, hkn⟩ := hu
  have hall : ns.all a.known = false :=
    List.all_eq_false.mpr ⟨n, hn, by rw [hkn]; exact Bool.false_ne_true⟩
  have := getset_closed a oc ⟨ns, none⟩ ns fs (samplesToExtract_names a (List.ne_nil_of_mem hn))
  rw [hall] at this
  exact ⟨this.1, this.2, by decide⟩

example : getset demoEnv ⟨[[116], [120], [115]], none⟩ .stdout ⟨none, none, []⟩
    = (.err, ⟨none, none, [62, 120, 10, 71, 10]⟩) := by decide +kernel

/-- stdout and `-o` carry the same bytes and give the same exit status, for every archive (or
none), every request (names, prefix, nothing), writable temp directory or not, success or
failure: either the run fails before the destination is opened (then the `-o` path is untouched
and nothing is printed), or the `-o` file holds exactly what the stdout run prints. -/
theorem getset_stdout_eq_file (archive : Option Archive) (tc : Bool) (r : Request) (t o : File) :
    (getset ⟨archive, true, tc⟩ r .stdout ⟨t, o, []⟩).1 =
      (getset ⟨archive, true, tc⟩ r .file ⟨t, o, []⟩).1 ∧
    ((getset ⟨archive, true, tc⟩ r .file ⟨t, o, []⟩).2.out =
        some (getset ⟨archive, true, tc⟩ r .stdout ⟨t, o, []⟩).2.stdout ∨
     ((getset ⟨archive, true, tc⟩ r .file ⟨t, o, []⟩).2.out = o ∧
      (getset ⟨archive, true, tc⟩ r .stdout ⟨t, o, []⟩).2.stdout = [] ∧
      (getset ⟨archive, true, tc⟩ r .stdout ⟨t, o, []⟩).1 = .err)) := by
  cases archive with
  | none => exact ⟨rfl, Or.inr ⟨rfl, rfl, rfl⟩⟩
  | some a =>
    cases hs : samplesToExtract a r with
    | none => simp [getset, hs]
    | some ns =>
      cases tc with
      | false => simp [getset, hs, extractLoop_noTemp, File.create]
      | true =>
        obtain ⟨h1, h2⟩ := getset_closed a true r ns ⟨t, o, []⟩ hs
        rw [h1, h2]
        exact ⟨rfl, Or.inl rfl⟩

example : (getset demoEnv ⟨[[115, 49], [115]], none⟩ .file ⟨none, some [7], []⟩).2.out
    = some (getset demoEnv ⟨[[115, 49], [115]], none⟩ .stdout ⟨none, some [7], []⟩).2.stdout := by
  decide +kernel

/-- The repaired defect, as a statement about the old code: before commit 158f0d4 `getset` with
all names present left only the *last* requested sample in the `-o` file / on stdout. -/
theorem getsetOld_keeps_last (a : Archive) (oc tc : Bool) (ns : List Bytes) (fs : Fs)
    (hne : ns ≠ []) (hk : ∀ n ∈ ns, a.known n = true) :
    getsetOld ⟨some a, oc, tc⟩ ⟨ns, none⟩ .file fs =
      (.ok, { fs with out := some (a.fasta (ns.getLast hne)) }) ∧
    getsetOld ⟨some a, oc, tc⟩ ⟨ns, none⟩ .stdout fs =
      (.ok, { fs with stdout := fs.stdout ++ a.fasta (ns.getLast hne), temp := none }) := by
  have hs := samplesToExtract_names a hne
  cases ns with
  | nil => exact absurd rfl hne
  | cons n rest =>
    simp only [getsetOld, hs]
    exact oldLoops_known a n rest false fs hk

/-- Negation witness for the old code (the defect D10 that commit 158f0d4 repaired): two samples
requested, only the second survives, although the exit status is 0 — while the current `getset`
writes both. -/
theorem getsetOld_loses_samples :
    getsetOld demoEnv ⟨[[115], [116]], none⟩ .file ⟨none, none, []⟩
      = (.ok, ⟨none, some [62, 120, 10, 71, 10], []⟩) ∧
    getsetOld demoEnv ⟨[[115], [116]], none⟩ .stdout ⟨none, none, []⟩
      = (.ok, ⟨none, none, [62, 120, 10, 71, 10]⟩) ∧
    getset demoEnv ⟨[[115], [116]], none⟩ .file ⟨none, none, []⟩
      = (.ok, ⟨none, some ([62, 99, 49, 10, 65, 67, 71, 84, 10] ++ [62, 120, 10, 71, 10]), []⟩) ∧
    (getsetOld demoEnv ⟨[[115], [116]], none⟩ .file ⟨none, none, []⟩).2.out ≠
      (getset demoEnv ⟨[[115], [116]], none⟩ .file ⟨none, none, []⟩).2.out := by
  decide +kernel

/-- `getset` exits 0 exactly when everything asked for could be done: the archive opens, the
request selects at least one sample, every requested name is present, the temp file and (with `-o`)
the output file can be created. -/
theorem getset_ok_iff (env : Env) (r : Request) (d : Dest) (fs : Fs) :
    (getset env r d fs).1 = .ok ↔
      ∃ a ns, env.archive = some a ∧ samplesToExtract a r = some ns ∧
        (∀ n ∈ ns, a.known n = true) ∧ env.tempCreatable = true ∧
        (d = .file → env.outCreatable = true) := by
  obtain ⟨arch, oc, tc⟩ := env
  constructor
  · intro h
    cases arch with
    | none => cases h
    | some a =>
      cases hs : samplesToExtract a r with
      | none => simp only [getset, hs] at h; cases h
      | some ns => exact ⟨a, ns, rfl, hs, (getset_exit_ok_iff a oc tc r d fs hs).mp h⟩
  · rintro ⟨a, ns, rfl, hs, hk⟩
    exact (getset_exit_ok_iff a oc tc r d fs hs).mpr hk

example : (getset demoEnv ⟨[], some [115]⟩ .file ⟨none, none, []⟩).1 = .ok := by decide +kernel

/-- Every failure gives a non-zero exit status: `getset` ends with status 0 or 1, `listset` and
`listctg` with 0, 1 or (no sample argument) 2 — never with 0 unless they are `Exit.ok`; and each
cause of failure (archive cannot be opened; no sample selected; unknown name; output or temp file
cannot be created) makes the exit status non-zero. -/
theorem failure_nonzero (env : Env) (r : Request) (d : Dest) (fs : Fs) :
    ((getset env r d fs).1 = .ok ∨ (getset env r d fs).1 = .err) ∧
    ((getset env r d fs).1.code = 0 ↔ (getset env r d fs).1 = .ok) ∧
    ((env.archive = none ∨
      (∀ a, env.archive = some a → samplesToExtract a r = none) ∨
      (∀ a ns, env.archive = some a → samplesToExtract a r = some ns → ∃ n ∈ ns, a.known n = false) ∨
      env.tempCreatable = false ∨ (d = .file ∧ env.outCreatable = false)) →
      (getset env r d fs).1.code ≠ 0) := by
  refine ⟨getset_exit env r d fs, Exit.code_eq_zero _, fun hfail => ?_⟩
  rw [Ne, Exit.code_eq_zero, getset_ok_iff]
  rintro ⟨a, ns, ha, hs, hk, htc, hoc⟩
  rcases hfail with h | h | h | h | h
  · rw [ha] at h; cases h
  · rw [h a ha] at hs; cases hs
  · obtain ⟨n, hn, hkn⟩ := h a ns ha hs
    rw [hk n hn] at hkn; cases hkn
  · rw [htc] at h; cases h
  · rw [hoc h.1] at h; cases h.2

example : (getset ⟨none, true, true⟩ ⟨[[115]], none⟩ .file ⟨none, some [1], []⟩)
    = (.err, ⟨none, some [1], []⟩) := by decide +kernel

/-- `listset` prints the sample names in archive order, one per line, and exits 0; an archive
that cannot be opened, or an output file that cannot be created, gives status 1 and no output. -/
theorem listset_spec (archive : Option Archive) (oc : Bool) (d : Dest) (out : File) :
    (∀ a, archive = some a → d = .stdout →
      listset archive oc d out = (.ok, linesOf (a.samples.map (·.name)), out)) ∧
    (∀ a, archive = some a → d = .file → oc = true →
      listset archive oc d out = (.ok, [], some (linesOf (a.samples.map (·.name))))) ∧
    ((listset archive oc d out).1 = .ok ∨
      ((listset archive oc d out).1 = .err ∧ (listset archive oc d out).2 = ([], out))) := by
  refine ⟨?_, ?_, ?_⟩
  · rintro a rfl rfl; rfl
  · rintro a rfl rfl rfl; simp [listset, File.create, File.append]
  · cases archive with
    | none => right; exact ⟨rfl, rfl⟩
    | some a =>
      cases d with
      | stdout => left; rfl
      | file => cases oc <;> simp [listset]

example : listset (some demo) true .stdout none = (.ok, [115, 10, 115, 49, 10, 116, 10], none) := by
  decide +kernel

/-- Flag dispatch of `create` is total and truthful. A run that exits 0 went through the
streaming mode — none of `--batch`, `--adaptive`, `--concatenated`, `--cpp-agc` (in a build without
the FFI feature), `-t 0`, an unparsable or overflowing `--queue-capacity`, no input, no `-o` falls
through to status 0 — and reached the end of `finalize` with every step `Ok` (C15 then says the
file is complete). -/
theorem create_dispatch_total (c : CreateArgs) (e : CreateEnv) (hfeat : c.cppFeature = false) :
    (createExit c e = .ok →
      c.outputGiven = true ∧ c.nInputs ≥ 1 ∧ c.batch = false ∧ c.adaptive = false ∧
      c.concatenated = false ∧ c.cppAgc = false ∧ c.threads ≠ some 0 ∧
      (∃ n, parseCapacity c.queueCapacity = some n ∧
        createDispatch c = .streaming (c.nInputs == 1) n) ∧
      e.inputsOk = true ∧ e.outputCreatable = true ∧ e.finalizeOk = true) ∧
    (createExit c e = .ok ∨ createExit c e = .err ∨ createExit c e = .usage) ∧
    ((createExit c e).code = 0 ↔ createExit c e = .ok) := by
  refine ⟨?_, ?_, Exit.code_eq_zero _⟩
  · intro h
    rcases createExit_ok h with ⟨hd, _⟩ | ⟨s, n, hd, hi, ho, hf⟩
    · have := (dispatch_cppFfi hd).2
      rw [hfeat] at this
      cases this
    · obtain ⟨h1, h2, h3, h4, h5, h6, h7, h8, h9⟩ := dispatch_streaming hd
      exact ⟨h1, Nat.pos_of_ne_zero h2, h5, h6, h7, h4, h3, ⟨n, h8, by rw [hd, h9]⟩, hi, ho, hf⟩
  · exact createExit_class c e

example : createExit ⟨true, 3, 0, false, false, false, false, [50, 71], none, false⟩ ⟨true, true, true, true⟩
    = .ok ∧
    createDispatch ⟨true, 3, 0, false, false, false, false, [50, 71], none, false⟩
    = .streaming false 2147483648 := by decide +kernel

/-- Each unsupported flag (combination) alone is enough for a non-zero exit status, whatever the
other flags and the environment are. -/
theorem create_unsupported_nonzero (c : CreateArgs) (e : CreateEnv) (hfeat : c.cppFeature = false)
    (h : c.batch = true ∨ c.adaptive = true ∨ c.concatenated = true ∨ c.cppAgc = true ∨
      c.threads = some 0 ∨ parseCapacity c.queueCapacity = none ∨ c.nInputs = 0 ∨
      c.outputGiven = false ∨ e.inputsOk = false ∨ e.outputCreatable = false ∨
      e.finalizeOk = false) :
    (createExit c e).code ≠ 0 := by
  obtain ⟨hok, _, hcode⟩ := create_dispatch_total c e hfeat
  rw [Ne, hcode]
  intro hx
  obtain ⟨h1, h2, h3, h4, h5, h6, h7, ⟨n, h8, _⟩, h9, h10, h11⟩ := hok hx
  -- every disjunct contradicts one of the eleven facts that exit status 0 implies
  rw [h3, h4, h5, h6, h8, h1, h9, h10, h11] at h
  simp only [Bool.false_eq_true, Bool.true_eq_false, reduceCtorEq, false_or, or_false] at h
  rcases h with h | h
  · exact h7 h
  · omega

example : (createExit ⟨true, 2, 1, false, false, true, false, [50, 71], some 4, false⟩ ⟨true, true, true, true⟩).code
    = 1 := by decide +kernel

/-- `parse_capacity` on the suffix forms: `<n>K`, `<n>M`, `<n>G` (either case, surrounding blanks
allowed) give `n·1024`, `n·1024²`, `n·1024³` when the product fits 64 bits and an error otherwise;
a plain number is taken as bytes. -/
theorem parseCapacity_examples :
    parseCapacity [50, 71] = some 2147483648 ∧
    parseCapacity [32, 53, 107, 32] = some 5120 ∧
    parseCapacity [53, 49, 50, 77] = some 536870912 ∧
    parseCapacity [52, 48, 48, 48] = some 4000 ∧
    parseCapacity [43, 55] = some 7 ∧
    parseCapacity [49, 55, 49, 55, 57, 56, 54, 57, 49, 56, 51, 71] = some (17179869183 * 1024 ^ 3) ∧
    parseCapacity [49, 55, 49, 55, 57, 56, 54, 57, 49, 56, 52, 71] = none ∧
    parseCapacity [] = none ∧ parseCapacity [71] = none ∧ parseCapacity [49, 46, 53, 71] = none ∧
    parseCapacity [45, 49] = none ∧ parseCapacity [120] = none := by
  decide +kernel

end Ragc.Props.C17
