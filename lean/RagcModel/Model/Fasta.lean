import RagcModel.Gen.Tables
/-!
# Model of the FASTA reader / writer of `ragc-core/src/genome_io.rs` and of the sample naming of
`ragc-core/src/contig_iterator.rs` (`MultiFileIterator`)

Bytes are `Nat`s (`< 256`); a text, a line, a header and a path are `List Nat`.

Domain notes (where the byte model and the Rust `String` handling coincide):
* the header goes through `String::from_utf8_lossy(..).trim_start_matches('>').trim()`. On a header
  line that is valid UTF-8 and has no *non-ASCII* Unicode white space (U+0085, U+00A0, U+1680,
  U+2000.., U+3000 …) next to its ends, this is: drop leading `>`s, then drop the ASCII white space
  `\t \n \v \f \r ' '` (9–13, 32) at both ends — which is what `headerId` does on bytes. Invalid
  UTF-8 (replaced by U+FFFD in the Rust) is outside the model.
* paths: `sampleNameOfPath` is the rule of `Path::file_stem` for paths whose last component is a
  normal file name (not empty, not `.`/`..`, valid UTF-8); anything else is `none` (outside).
* gzip (`flate2::MultiGzDecoder`) is not modelled: the text is the decompressed byte stream.
-/
namespace Ragc.Fasta

abbrev Bytes := List Nat

/-! ## lines: what successive `BufRead::read_until(b'\n', ..)` calls return -/

/-- One `reader.read_until(b'\n', &mut buf)` (genome_io.rs:118, 132) on the remaining input:
`none` when `bytes_read == 0` (end of input), otherwise the line **including** its `\n` (the last
line of a text without final newline has none; `\r` is an ordinary byte) and the remaining input. -/
def readLine : Bytes → Option (Bytes × Bytes)
  | [] => none
  | b :: rest =>
    if b = 10 then some ([10], rest)
    else match readLine rest with
      | none => some ([b], [])
      | some (l, r) => some (b :: l, r)

/-- All lines of a text, in order: the sequence of buffers the successive `read_until` calls fill
(`Lemmas/Fasta.lean` `lines_eq_readLine`: `lines t = l :: lines r` when `readLine t = some (l, r)`). -/
def lines : Bytes → List Bytes
  | [] => []
  | b :: rest =>
    if b = 10 then [10] :: lines rest
    else match lines rest with
      | [] => [[b]]
      | l :: ls => (b :: l) :: ls

/-! ## header -/

/-- `char::is_whitespace` restricted to ASCII: `\t \n \v \f \r` and space. -/
def isWs (b : Nat) : Bool := (9 ≤ b && b ≤ 13) || b = 32

def trimStart (l : Bytes) : Bytes := l.dropWhile isWs
def trimEnd (l : Bytes) : Bytes := (l.reverse.dropWhile isWs).reverse
/-- `str::trim` (ASCII part). -/
def trim (l : Bytes) : Bytes := trimStart (trimEnd l)

/-- genome_io.rs:126-127: `id_line.trim_start_matches('>').trim()` on the raw header line (the
line still carries its `>`s and its line end). Note that the line is **not** required to start
with `>`: whatever line the reader takes as header line is treated this way. -/
def headerId (line : Bytes) : Bytes := trim (line.dropWhile (· = 62))

/-- genome_io.rs:140 `!self.buffer.is_empty() && self.buffer[0] == b'>'`. -/
def isHeaderLine (l : Bytes) : Bool := l.head? = some 62

/-! ## `read_contig_raw` (genome_io.rs, after the D9 repair) as a state machine -/

/-- Reader state: the lines not yet read from the `BufReader` and `next_header` (the header line
read ahead by the previous call). -/
structure Reader where
  lines : List Bytes
  nextHeader : Option Bytes
deriving Repr, DecidableEq

/-- The `loop` of genome_io.rs:130-148 on the unread lines: returns the raw contig (every line
up to the next header line, **with** line ends), the header line read ahead (if any) and the
unread lines. -/
def readSeqLines : List Bytes → Bytes → Bytes × Option Bytes × List Bytes
  | [], acc => (acc, none, [])
  | l :: ls, acc =>
    if isHeaderLine l then (acc, some l, ls)
    else readSeqLines ls (acc ++ l)

/-- `String::from_utf8_lossy(&self.buffer).trim().is_empty()`: a line of white space only. -/
def isBlankLine (l : Bytes) : Bool := trim l = []

/-- The header line of this call and the unread lines after it: the buffered `next_header` if
there is one, else the next line **that is not blank**, whatever it is; `none` = end of input
(`bytes_read == 0`). -/
def takeHeaderLine (r : Reader) : Option (Bytes × List Bytes) :=
  match r.nextHeader with
  | some h => some (h, r.lines)
  | none =>
    match r.lines.dropWhile isBlankLine with
    | [] => none
    | l :: ls => some (l, ls)

/-- What one `read_contig_raw` call returns. -/
inductive ReadOutcome where
  /-- `Ok(None)`: end of input -/
  | eof
  /-- `Err(InvalidData)`: a record whose name is empty -/
  | invalid
  /-- `Ok(Some((id, contig)))`; the contig may be empty (a header without any line after it) -/
  | record (id raw : Bytes)
deriving Repr, DecidableEq

/-- End of `read_contig_raw`: `if id.is_empty() { return Err(..) }`, else the record — also when
its contig is empty (callers skip empty contigs). -/
def recordResult (id contig : Bytes) : ReadOutcome :=
  if id = [] then .invalid else .record id contig

/-- `GenomeIO::read_contig_raw`: result and next state. -/
def readContigRaw (r : Reader) : ReadOutcome × Reader :=
  match takeHeaderLine r with
  | none => (.eof, r)
  | some (h, ls) =>
    let s := readSeqLines ls []
    (recordResult (headerId h) s.1, ⟨s.2.2, s.2.1⟩)

/-! ## `read_contig_impl(converted = true)` (genome_io.rs:158-180) -/

def cnv (c : Nat) : Nat := Ragc.Gen.cnvNum.getD c 0

/-- The filter/convert loop of genome_io.rs:168-177 with `converted = true`:
`if c > 64 && (c as usize) < CNV_NUM.len() { contig.push(CNV_NUM[c]) }`. -/
def convert (raw : Bytes) : Bytes :=
  (raw.filter (fun c => Ragc.Gen.keepAbove < c && c < Ragc.Gen.cnvNum.length)).map cnv

/-- The same loop with `converted = false` (`read_contig`): keeps the letters as they are. -/
def filterRaw (raw : Bytes) : Bytes :=
  raw.filter (fun c => Ragc.Gen.keepAbove < c && c < Ragc.Gen.cnvNum.length)

/-- `read_contig_converted` / `read_contig_impl(true)`: `(id, codes)`. -/
def readContigConverted (r : Reader) : ReadOutcome × Reader :=
  match readContigRaw r with
  | (.record id raw, r') => (.record id (convert raw), r')
  | other => other

/-- Number of `read_until` results still to come, counting the buffered header. -/
def Reader.size (r : Reader) : Nat := r.lines.length + (if r.nextHeader.isSome then 1 else 0)

theorem readSeqLines_size (ls : List Bytes) (acc : Bytes) :
    (readSeqLines ls acc).2.2.length + (if (readSeqLines ls acc).2.1.isSome then 1 else 0)
      ≤ ls.length := by
  induction ls generalizing acc with
  | nil => exact Nat.le_refl 0
  | cons l ls ih =>
    unfold readSeqLines
    by_cases h : isHeaderLine l = true
    · rw [if_pos h]; exact Nat.le_refl _
    · rw [if_neg h]; exact Nat.le_succ_of_le (ih (acc ++ l))

theorem dropWhile_length_le {α : Type} (p : α → Bool) (l : List α) :
    (l.dropWhile p).length ≤ l.length :=
  (List.dropWhile_suffix p).length_le

theorem takeHeaderLine_size (r : Reader) (h : Bytes) (ls : List Bytes)
    (hh : takeHeaderLine r = some (h, ls)) : ls.length < r.size := by
  unfold takeHeaderLine at hh
  unfold Reader.size
  cases hn : r.nextHeader with
  | some x =>
    rw [hn] at hh
    cases hh
    exact Nat.lt_succ_self _
  | none =>
    rw [hn] at hh
    have := dropWhile_length_le isBlankLine r.lines
    cases hl : r.lines.dropWhile isBlankLine with
    | nil => rw [hl] at hh; cases hh
    | cons a b =>
      rw [hl] at hh this
      cases hh
      exact this

theorem readContigRaw_size (r : Reader) (id raw : Bytes) (r' : Reader)
    (h : readContigRaw r = (.record id raw, r')) : r'.size < r.size := by
  unfold readContigRaw at h
  cases hh : takeHeaderLine r with
  | none => rw [hh] at h; cases h
  | some p =>
    obtain ⟨hd, ls⟩ := p
    rw [hh] at h
    obtain ⟨_, rfl⟩ := Prod.mk.inj h
    exact Nat.lt_of_le_of_lt (readSeqLines_size ls []) (takeHeaderLine_size r hd ls hh)

/-- Every caller's loop `while let Some(..) = reader.read_contig_converted()?` (MultiFileIterator
::next_contig → main.rs; splitters.rs): all records up to the end of the input; `none` = the `?`
exit (`Err`: a record with an empty name). -/
def readAll (r : Reader) : Option (List (Bytes × Bytes)) :=
  match h : readContigRaw r with
  | (.eof, _) => some []
  | (.invalid, _) => none
  | (.record id raw, r') => (readAll r').map ((id, convert raw) :: ·)
termination_by r.size
decreasing_by exact readContigRaw_size r id raw r' h

/-- What one input file yields: `(header, codes)` for every record (records whose codes are empty
are still listed here; main.rs skips them, see `createInput`); `none` = reading fails. -/
def parseFile (text : Bytes) : Option (List (Bytes × Bytes)) := readAll ⟨lines text, none⟩

/-- ragc-cli/src/main.rs create_archive: `if sequence.is_empty() { continue }` /
`if !sequence.is_empty() { push }`. -/
def createInput (text : Bytes) : Option (List (Bytes × Bytes)) :=
  (parseFile text).map (·.filter (fun p => p.2 ≠ []))

/-! ## sample naming -/

/-- `str::split(sep)`: always at least one (possibly empty) field. -/
def splitBy (sep : Nat) : Bytes → List Bytes
  | [] => [[]]
  | b :: rest =>
    if b = sep then [] :: splitBy sep rest
    else match splitBy sep rest with
      | [] => [[b]]
      | p :: ps => (b :: p) :: ps

def joinBy (sep : Nat) : List Bytes → Bytes
  | [] => []
  | [p] => p
  | p :: ps => p ++ sep :: joinBy sep ps

/-- "unknown" -/
def unknown : Bytes := [117, 110, 107, 110, 111, 119, 110]

/-- `parse_sample_from_header` (genome_io.rs:42-55): `(sample, contig)`; with at least three
`#`-separated fields the sample is `field0#field1` and the contig the rest joined by `#`, else
`("unknown", header)`. -/
def parseSampleFromHeader (h : Bytes) : Bytes × Bytes :=
  match splitBy 35 h with
  | a :: b :: c :: rest => (a ++ 35 :: b, joinBy 35 (c :: rest))
  | _ => (unknown, h)

/-- Last path component: what `Path::file_name` returns for a path that does not end in `/`,
`/.` or `/..`. -/
def fileName (p : Bytes) : Bytes := (p.reverse.takeWhile (· ≠ 47)).reverse

/-- `Path::file_stem` on a file name (std `rsplit_file_at_dot`): the part before the last `.`;
the whole name if there is no `.` or the only `.` is the first byte. -/
def fileStem (name : Bytes) : Bytes :=
  let r := name.reverse
  let after := r.takeWhile (· ≠ 46)
  if after.length = r.length then name
  else
    let before := (r.drop (after.length + 1)).reverse
    if before = [] then name else before

/-- Repeatedly strip the prefix `pre` (used on reversed strings for `trim_end_matches`). -/
def stripPrefixRep (pre : Bytes) (l : Bytes) : Bytes :=
  if h : pre ≠ [] ∧ pre.isPrefixOf l then stripPrefixRep pre (l.drop pre.length) else l
termination_by l.length
decreasing_by
  have h1 : 0 < pre.length := List.length_pos_iff.mpr h.1
  have h2 : pre.length ≤ l.length := (List.isPrefixOf_iff_prefix.mp h.2).length_le
  simp only [List.length_drop]
  omega

/-- `str::trim_end_matches(suffix)`: strips the suffix repeatedly. -/
def trimEndMatches (suf : Bytes) (l : Bytes) : Bytes :=
  (stripPrefixRep suf.reverse l.reverse).reverse

/-- ".fa" / ".fasta" -/
def dotFa : Bytes := [46, 102, 97]
def dotFasta : Bytes := [46, 102, 97, 115, 116, 97]
def dotGz : Bytes := [46, 103, 122]

/-- contig_iterator.rs:550-559 on the file name:
`file_stem.trim_end_matches(".fa").trim_end_matches(".fasta")`. -/
def sampleNameOfFile (name : Bytes) : Bytes :=
  trimEndMatches dotFasta (trimEndMatches dotFa (fileStem name))

/-- `MultiFileIterator::open_file` sample name of a path (contig_iterator.rs:550-559). `none`:
the last component is empty, `.` or `..` (outside the model). -/
def sampleNameOfPath (p : Bytes) : Option Bytes :=
  let name := fileName p
  if name = [] ∨ name = [46] ∨ name = [46, 46] then none else some (sampleNameOfFile name)

/-- `MultiFileIterator::next_contig` (contig_iterator.rs:589-599): the sample a record goes to:
the PanSN part of its header if the header has ≥ 3 `#`-fields, else the file's sample name. -/
def sampleOf (fileSample : Bytes) (header : Bytes) : Bytes :=
  let s := (parseSampleFromHeader header).1
  if s ≠ unknown then s else fileSample

/-- The `(sample, contig name, codes)` stream one input file contributes to `create`
(MultiFileIterator + main.rs skip of empty sequences); the contig name is the full header. -/
def fileStream (fileSample : Bytes) (text : Bytes) : Option (List (Bytes × Bytes × Bytes)) :=
  (createInput text).map (·.map (fun p => (sampleOf fileSample p.1, p.1, p.2)))

/-! ## output side -/

/-- decompressor.rs write_sample_fasta (1053-1061): `if base < 16 { CNV_NUM[base] } else { b'N' }`. -/
def outLetter (code : Nat) : Nat := if code < 16 then cnv code else 78

/-- `slice::chunks(w)` for `w ≥ 1` (`chunks(0)` panics in Rust; the model returns `[]` there —
the only width used is the constant 80). -/
def chunks (w : Nat) (l : Bytes) : List Bytes :=
  if h : w = 0 ∨ l = [] then [] else l.take w :: chunks w (l.drop w)
termination_by l.length
decreasing_by
  have : 0 < l.length := List.length_pos_iff.mpr (by simp_all)
  simp only [List.length_drop]
  omega

/-- genome_io.rs:233 `const LINE_WIDTH: usize = 80`. -/
def lineWidth : Nat := 80

/-- `GenomeWriter::save_contig_directly` (genome_io.rs:222-240): `>id\n`, then the sequence in
chunks of 80, each followed by `\n` (an empty contig is the header line alone). -/
def saveContig (id seq : Bytes) : Bytes :=
  62 :: id ++ 10 :: ((chunks lineWidth seq).map (· ++ [10])).flatten

/-- `write_sample_fasta` (decompressor.rs:1045-1070) on the `(name, codes)` list of a sample. -/
def writeFasta (contigs : List (Bytes × Bytes)) : Bytes :=
  (contigs.map (fun c => saveContig c.1 (c.2.map outLetter))).flatten

/-! ## the documented normalisation -/

def isUpper (b : Nat) : Bool := 65 ≤ b && b ≤ 90
def isLower (b : Nat) : Bool := 97 ≤ b && b ≤ 122
def isLetter (b : Nat) : Bool := isUpper b || isLower b
def toUpper (b : Nat) : Nat := if isLower b then b - 32 else b
def toLower (b : Nat) : Nat := if isUpper b then b + 32 else b

/-- `ACGTNRYSWKMBDHVU` -/
def iupac : Bytes := [65, 67, 71, 84, 78, 82, 89, 83, 87, 75, 77, 66, 68, 72, 86, 85]

/-- The documented normalisation of one letter: upper case; outside the IUPAC set → `N`. -/
def normLetter (b : Nat) : Nat := if iupac.contains (toUpper b) then toUpper b else 78

/-- The documented normalisation of sequence text: non-letters dropped, upper case, letters
outside the IUPAC set read back as `N`. -/
def normalise (raw : Bytes) : Bytes := (raw.filter isLetter).map normLetter

/-- The bytes `> 64` that are not letters: `[ \ ] ^ _` and the back quote, `{ | } ~`, DEL. The code does not
drop them (only bytes `≤ 64` and `≥ 128` are dropped). -/
def isHighPunct (b : Nat) : Bool := (91 ≤ b && b ≤ 96) || (123 ≤ b && b ≤ 127)

/-- What the code really does to sequence text: as `normalise`, but the 11 `isHighPunct` bytes
are kept and read back as `N`. -/
def normaliseCode (raw : Bytes) : Bytes :=
  (raw.filter (fun b => isLetter b || isHighPunct b)).map
    (fun b => if isLetter b then normLetter b else 78)

/-! ## presentations -/

/-- A record as the user means it: header text (without `>` and line end) and letters. -/
structure Rec where
  header : Bytes
  seq : Bytes
deriving Repr, DecidableEq

/-- How one record is laid out: line width (`≥ 1`), line end, and the case of each letter
(`lower.getD i false` = letter `i` in lower case, otherwise upper case). -/
structure RecStyle where
  width : Nat
  crlf : Bool
  lower : List Bool
deriving Repr, DecidableEq

def lineEnd (crlf : Bool) : Bytes := if crlf then [13, 10] else [10]

/-- Case pattern applied letter by letter. -/
def applyCase : List Bool → Bytes → Bytes
  | _, [] => []
  | [], b :: bs => toUpper b :: applyCase [] bs
  | c :: cs, b :: bs => (if c then toLower b else toUpper b) :: applyCase cs bs

/-- Lines joined by the line end `nl`; the very last line of the text has no line end when
`closeLast = false`. -/
def renderLines (nl : Bytes) (closeLast : Bool) : List Bytes → Bytes
  | [] => []
  | [c] => if closeLast then c ++ nl else c
  | c :: cs => c ++ nl ++ renderLines nl closeLast cs

/-- The lines of one record (without line ends): `>header`, then the letters in the record's case
pattern in chunks of `width`. -/
def recLines (r : Rec) (s : RecStyle) : List Bytes :=
  (62 :: r.header) :: chunks s.width (applyCase s.lower r.seq)

/-- One record as text. `closeLast = false` only for the last record of a text without final
newline. -/
def renderRec (r : Rec) (s : RecStyle) (closeLast : Bool) : Bytes :=
  renderLines (lineEnd s.crlf) closeLast (recLines r s)

/-- A presentation of a list of records: each with its own style, the text with or without
final newline. -/
def render (finalNewline : Bool) : List (Rec × RecStyle) → Bytes
  | [] => []
  | [(r, s)] => renderRec r s finalNewline
  | (r, s) :: rest => renderRec r s true ++ render finalNewline rest

/-- What every presentation must parse to: trimmed header, table code of the upper-cased letter. -/
def canonRec (r : Rec) : Bytes × Bytes := (headerId (62 :: r.header), r.seq.map (fun b => cnv (toUpper b)))

def canon (recs : List Rec) : List (Bytes × Bytes) := recs.map canonRec

end Ragc.Fasta
