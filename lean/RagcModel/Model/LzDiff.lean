import RagcModel.Gen.Tables
/-!
Model of `ragc-core/src/lz_diff.rs` (`LZDiff::new/prepare/encode/decode`) and of
`ragc-common/src/hash.rs` `MurMur64Hash`.

Conventions
* symbols and bytes are `Nat`; sequences that the Rust indexes randomly (`reference`, `target`, the
  hash table) are `Array Nat`, everything else is a `List`;
* integers are unbounded: the `u32`/`i64`/`usize` ranges of positions and lengths are *not* modelled
  (sequences shorter than 2^31; C18 is the property about wrap-around). The only wrapping arithmetic
  that is modelled exactly is the `u64` k-mer code / MurMur64 hash (`UInt64`);
* a Rust panic is `none` (`Found.panic`, `CodeR.oob`);
* the encoder produces **tokens** (`Tok`, newest first) which `serialize` turns into exactly the
  bytes the Rust pushes; `encode` is parametrised by the *candidate supplier* `S : UInt64 → List Nat`
  (k-mer code ↦ reference positions to try, in probe order). `exactSupplier` is the linear-probing
  table of `build_index_lp`/`find_best_match_lp`, and `encodeExact` is the byte-exact model of
  `LZDiff::encode`;
* the valid range of `min_match_len` is `lzHashingStep ≤ mm` (`key_len = mm - HASHING_STEP + 1 ≥ 1`):
  `mm < 3` underflows in `new`, `mm = 3` gives `key_len = 0` for which `get_code_skip1` computes
  `0usize - 1`. Outside that range `encode` is `none`.
-/
set_option linter.unusedVariables false
set_option linter.unusedSimpArgs false

namespace Ragc.Model.LzDiff
open Ragc.Gen

/-! ## Tokens and their byte form -/

/-- What the encoder emits. `mtch d len`: `d = match_pos - pred_pos`, `len = none` is the
    match-to-end form. -/
inductive Tok where
  | lit (c : Nat)
  | bang
  | nrun (n : Nat)
  | mtch (d : Int) (len : Option Nat)
deriving Repr, DecidableEq

/-- Decimal digits (ASCII), most significant first; `0 ↦ "0"` (`append_int`, lines 223-243, which
    writes the digits in reverse and then reverses them). -/
def natDigits (n : Nat) : List Nat :=
  if n < 10 then [48 + n] else natDigits (n / 10) ++ [48 + n % 10]
termination_by n
decreasing_by omega

/-- `append_int` (lines 223-243). -/
def appendInt (x : Int) : List Nat :=
  if x < 0 then 45 :: natDigits x.natAbs else natDigits x.toNat

/-- `encode_literal` (193-195), the `b'!'` store of the bang rewrite (526), `encode_nrun` (198-202),
    `encode_match` (208-220). -/
def serTok (mm : Nat) : Tok → List Nat
  | .lit c => [65 + c]
  | .bang => [33]
  | .nrun n => lzNRunStarter :: (natDigits (n - lzMinNRunLen) ++ [lzNCode])
  | .mtch d none => appendInt d ++ [46]
  | .mtch d (some l) => appendInt d ++ (44 :: (natDigits (l - mm) ++ [46]))

def serialize (mm : Nat) : List Tok → List Nat
  | [] => []
  | t :: ts => serTok mm t ++ serialize mm ts

/-! ## Geometry -/

/-- `LZDiff::new`: `key_len = min_match_len - HASHING_STEP + 1` (line 50). -/
def keyLen (mm : Nat) : Nat := mm + 1 - lzHashingStep

/-- The padding symbol of `prepare` (line 76). -/
def padSym : Nat := 31

/-- `prepare` (69-76): the reference followed by `key_len` padding symbols. -/
def padRef (mm : Nat) (ref : List Nat) : Array Nat :=
  (ref ++ List.replicate (keyLen mm) padSym).toArray

/-! ## Decoder, byte level (lines 658-851) -/

def isDigit (b : Nat) : Bool := 48 ≤ b && b ≤ 57

/-- the digit loop of `read_int` (841-844). -/
def readDigits : List Nat → Nat → Nat × List Nat
  | [], acc => (acc, [])
  | b :: bs, acc => if isDigit b then readDigits bs (acc * 10 + (b - 48)) else (acc, b :: bs)

/-- `read_int` (831-851): value and the unread rest; `data[0]` on an empty slice panics. -/
def readInt : List Nat → Option (Int × List Nat)
  | [] => none
  | b :: bs =>
    if b = 45 then
      let r := readDigits bs 0
      some (-(r.1 : Int), r.2)
    else
      let r := readDigits (b :: bs) 0
      some ((r.1 : Int), r.2)

theorem readDigits_length (bs : List Nat) (acc : Nat) : (readDigits bs acc).2.length ≤ bs.length := by
  fun_induction readDigits bs acc with
  | case1 => exact Nat.le_refl _
  | case2 b bs acc _ ih => exact Nat.le_succ_of_le ih
  | case3 => exact Nat.le_refl _

theorem readInt_length {bs : List Nat} {v : Int} {r : List Nat} (h : readInt bs = some (v, r)) :
    r.length ≤ bs.length := by
  revert h
  fun_cases readInt bs with
  | case1 => intro h; cases h
  | case2 bs r' =>
    intro h; cases h
    exact Nat.le_succ_of_le (readDigits_length bs 0)
  | case3 b bs hb r' =>
    intro h; cases h
    exact readDigits_length (b :: bs) 0

/-- `is_literal` (742-744). -/
def isLiteral (b : Nat) : Bool := (65 ≤ b && b ≤ 65 + lzLiteralSpan) || b = 33

/-- Lexing of one operation at `encoded[i..]`: the three-way test of the `decode` loop (666, 681,
    695) with `decode_literal` (747-753), `decode_nrun` (756-762) and `decode_match` (766-828).
    Returns the operation and the unread rest; `none` is a panic (`data[0]` on an empty slice,
    "missing separator", "missing length", "expected comma or period") or a number outside the
    modelled range (negative run length / match length). A letter whose code equals `b'!'` would
    be taken for `'!'` by `if c == b'!'` (668); that is kept. -/
def lexTok (mm : Nat) : List Nat → Option (Tok × List Nat)
  | [] => none
  | b :: rest =>
    if isLiteral b then
      let c := if b = 33 then 33 else b - 65
      some (if c = 33 then Tok.bang else Tok.lit c, rest)
    else if b = lzNRunStarter then
      match readInt rest with
      | none => none
      | some (v, r) => if v < 0 then none else some (Tok.nrun (v.toNat + lzMinNRunLen), r.drop 1)
    else
      match readInt (b :: rest) with
      | none => none
      | some (_, []) => none
      | some (d, s :: r2) =>
        if s = 46 then some (Tok.mtch d none, r2)
        else if s = 44 then
          match readInt r2 with
          | none => none
          | some (v, r3) => if v < 0 then none else some (Tok.mtch d (some (v.toNat + mm)), r3.drop 1)
        else none

theorem lexTok_length {mm : Nat} {bs : List Nat} {tok : Tok} {r : List Nat}
    (h : lexTok mm bs = some (tok, r)) : r.length < bs.length := by
  revert h
  fun_cases lexTok mm bs with
  | case1 | case3 | case4 | case6 | case7 | case9 | case10 | case12 => intro h; cases h
  | case2 =>
    intro h; cases h
    exact Nat.lt_succ_self _
  | case5 bs v r' hr =>
    intro h; cases h
    have := readInt_length hr
    simp only [List.length_drop, List.length_cons]; omega
  | case8 b bs _ _ d r2 hr =>
    intro h; cases h
    exact readInt_length hr
  | case11 b bs _ _ d r2 v r3 hr3 _ hr =>
    intro h; cases h
    have h1 := readInt_length hr
    have h3 := readInt_length hr3
    simp only [List.length_drop, List.length_cons] at h1 ⊢; omega

/-- Execution of one operation (668-679, 683, 698-709): `out` = `decoded`, `pred` = `pred_pos`.
    Slices are taken from the *padded* reference and panic (`none`) when they do not fit;
    a negative `ref_pos` wraps to a huge `usize` and panics in the slice as well. -/
def execTok (refP : Array Nat) (refLen : Nat) (out : Array Nat) (pred : Nat) : Tok → Option (Array Nat × Nat)
  | .lit c => some (out.push c, pred + 1)
  | .bang =>
    match refP[pred]? with
    | none => none
    | some a => some (out.push a, pred + 1)
  | .nrun n => some (out ++ Array.replicate n lzNCode, pred)
  | .mtch d len =>
    let q := (pred : Int) + d
    if q < 0 then none
    else
      match len with
      | none =>
        if refLen < q.toNat then none
        else if q.toNat + (refLen - q.toNat) ≤ refP.size then
          some (out ++ refP.extract q.toNat (q.toNat + (refLen - q.toNat)), q.toNat + (refLen - q.toNat))
        else none
      | some l =>
        if q.toNat + l ≤ refP.size then some (out ++ refP.extract q.toNat (q.toNat + l), q.toNat + l)
        else none

/-- The loop of `decode` (665-713); `bytes` is `encoded[i..]`. -/
def decodeGo (refP : Array Nat) (refLen mm : Nat) (bytes : List Nat) (out : Array Nat) (pred : Nat) :
    Option (Array Nat) :=
  if bytes = [] then some out
  else
    match h : lexTok mm bytes with
    | none => none
    | some (tok, rest) =>
      match execTok refP refLen out pred tok with
      | none => none
      | some (out', pred') => decodeGo refP refLen mm rest out' pred'
termination_by bytes.length
decreasing_by exact lexTok_length h

/-- `LZDiff::new(mm)`, `prepare(ref)`, `decode(bytes)`. -/
def decode (mm : Nat) (ref bytes : List Nat) : Option (List Nat) :=
  (decodeGo (padRef mm ref) ref.length mm bytes #[] 0).map Array.toList

/-- How the reader uses `decode` (decompressor.rs 862-871): an empty delta stands for the
    reference itself. -/
def decodeSeg (mm : Nat) (ref bytes : List Nat) : Option (List Nat) :=
  if bytes = [] then some ref else decode mm ref bytes

/-! ## Decoder, token level (specification side) -/

/-- One decoder step on a token: state = (output so far, `pred_pos`). -/
def stepTok (refP : Array Nat) (refLen : Nat) (st : List Nat × Nat) : Tok → Option (List Nat × Nat)
  | .lit c => some (st.1 ++ [c], st.2 + 1)
  | .bang =>
    match refP[st.2]? with
    | none => none
    | some a => some (st.1 ++ [a], st.2 + 1)
  | .nrun n => some (st.1 ++ List.replicate n lzNCode, st.2)
  | .mtch d len =>
    let q := (st.2 : Int) + d
    if q < 0 then none
    else
      match len with
      | none =>
        if refLen < q.toNat then none
        else if q.toNat + (refLen - q.toNat) ≤ refP.size then
          some (st.1 ++ (refP.extract q.toNat (q.toNat + (refLen - q.toNat))).toList, q.toNat + (refLen - q.toNat))
        else none
      | some l =>
        if q.toNat + l ≤ refP.size then
          some (st.1 ++ (refP.extract q.toNat (q.toNat + l)).toList, q.toNat + l)
        else none

def decToks (refP : Array Nat) (refLen : Nat) : List Tok → List Nat × Nat → Option (List Nat × Nat)
  | [], st => some st
  | t :: ts, st =>
    match stepTok refP refLen st t with
    | none => none
    | some st' => decToks refP refLen ts st'

/-! ## K-mer codes and hashing -/

/-- Result of reading a k-mer: `oob` is the slice-index panic, `invalid` is `None`. -/
inductive CodeR where
  | oob
  | invalid
  | ok (c : UInt64)
deriving Repr, DecidableEq

/-- loop of `get_code` (158-167) on `a[off..]`, `n` symbols still to read. -/
def getCodeGo (a : Array Nat) : Nat → Nat → UInt64 → CodeR
  | _, 0, code => .ok code
  | off, n + 1, code =>
    match a[off]? with
    | none => .oob
    | some s => if s > 3 then .invalid else getCodeGo a (off + 1) n ((code <<< 2) ||| UInt64.ofNat s)

/-- `get_code(&a[off..])` with `key_len = k`. -/
def getCode (a : Array Nat) (off k : Nat) : CodeR := getCodeGo a off k 0

/-- `key_mask` (51-55). -/
def keyMask (k : Nat) : UInt64 :=
  if k ≥ 32 then 0xFFFFFFFFFFFFFFFF else ((1 : UInt64) <<< UInt64.ofNat (2 * k)) - 1

/-- `get_code_skip1(prev, &a[off..])` (170-177); `k ≥ 1`. -/
def getCodeSkip1 (prev : UInt64) (a : Array Nat) (off k : Nat) : CodeR :=
  match a[off + (k - 1)]? with
  | none => .oob
  | some s => if s > 3 then .invalid else .ok (((prev <<< 2) &&& keyMask k) ||| UInt64.ofNat s)

/-- the k-mer code selection at the top of the encoder loop (439-447). -/
def nextCode (xprev : Option UInt64) (npl : Nat) (t : Array Nat) (i k : Nat) : CodeR :=
  match xprev with
  | some p => if npl > 0 then getCodeSkip1 p t i k else getCode t i k
  | none => getCode t i k

/-- hash.rs `MurMur64Hash::hash` (lines 11-18). -/
def murmur64 (h : UInt64) : UInt64 :=
  let h := h ^^^ (h >>> 33)
  let h := h * 0xff51afd7ed558ccd
  let h := h ^^^ (h >>> 33)
  let h := h * 0xc4ceb9fe1a85ec53
  h ^^^ (h >>> 33)

/-! ## Verified selection (`find_best_match_lp`, lines 246-378, minus the table probing) -/

/-- `matching_length` (381-388) on `t[ti..]`, `r[ri..]`; `n` = the bound `max`. -/
def matchLen (t r : Array Nat) : Nat → Nat → Nat → Nat
  | _, _, 0 => 0
  | ti, ri, n + 1 =>
    match t[ti]?, r[ri]? with
    | some a, some b => if a = b then matchLen t r (ti + 1) (ri + 1) n + 1 else 0
    | _, _ => 0

/-- the backward loop (338-345): compares `t[ti-1-b]` with `r[ri-1-b]` for `b < n = max_back`. -/
def backLen (t r : Array Nat) : Nat → Nat → Nat → Nat
  | _, _, 0 => 0
  | ti, ri, n + 1 =>
    match t[ti - 1]?, r[ri - 1]? with
    | some a, some b => if a = b then backLen t r (ti - 1) (ri - 1) n + 1 else 0
    | _, _ => 0

/-- best-so-far of the probe loop: `best_ref_pos`, `best_len_bck`, `best_len_fwd`, `min_to_update`. -/
structure Best where
  pos : Nat
  bck : Nat
  fwd : Nat
  mtu : Nat
deriving Repr, DecidableEq

inductive Found where
  | panic
  | noMatch
  | found (pos bck fwd : Nat)
deriving Repr, DecidableEq

/-- The body of the probe loop (278-360) for one candidate position `h` (= `h_pos`), and the final
    test (373-377). `ti` = `text_pos`, `maxLen` = `max_len`, `npl` = `no_prev_literals`. -/
def selectBest (mm k : Nat) (refP t : Array Nat) (code : UInt64) (ti maxLen npl : Nat) :
    List Nat → Best → Found
  | [], b => if b.bck + b.fwd ≥ mm then .found b.pos b.bck b.fwd else .noMatch
  | h :: hs, b =>
    if h ≥ refP.size then selectBest mm k refP t code ti maxLen npl hs b
    else
      match getCode refP h k with
      | .oob => .panic
      | .invalid => selectBest mm k refP t code ti maxLen npl hs b
      | .ok c =>
        if c ≠ code then selectBest mm k refP t code ti maxLen npl hs b
        else
          let f := matchLen t refP ti h (min maxLen (min (t.size - ti) (refP.size - h)))
          if f ≥ k then
            let bl := backLen t refP ti h (min npl (min h ti))
            if bl + f > b.mtu then
              selectBest mm k refP t code ti maxLen npl hs ⟨h, bl, f, bl + f⟩
            else selectBest mm k refP t code ti maxLen npl hs b
          else selectBest mm k refP t code ti maxLen npl hs b

/-- `find_best_match_lp` for the candidates `cands` (in probe order). -/
def findBest (mm : Nat) (refP t : Array Nat) (code : UInt64) (ti npl : Nat) (cands : List Nat) : Found :=
  selectBest mm (keyLen mm) refP t code ti (t.size - ti) npl cands ⟨0, 0, 0, mm⟩

/-- What the termination proof of the encoder needs: a reported match has `fwd ≥ key_len`
    (the general soundness statement is in `Lemmas/LzDiffFind.lean`). -/
theorem selectBest_fwd {mm k : Nat} {refP t : Array Nat} {code : UInt64} {ti maxLen npl : Nat}
    (hmm : 0 < mm) :
    ∀ (cands : List Nat) (b : Best) {p bk f : Nat},
      (b.bck + b.fwd = 0 ∨ k ≤ b.fwd) →
      selectBest mm k refP t code ti maxLen npl cands b = .found p bk f → k ≤ f := by
  intro cands b p bk f hb h
  fun_induction selectBest mm k refP t code ti maxLen npl cands b with
  | case1 b hge => -- candidates exhausted, the best is reported
    cases h
    omega
  | case2 | case4 => cases h -- no match; panic
  | case7 h hs b _ a _ _ f' hf _ _ ih => exact ih (Or.inr hf) h -- candidate accepted as the new best
  | case3 | case5 | case6 | case8 | case9 => rename_i ih; exact ih hb h -- candidate skipped

theorem findBest_fwd {mm : Nat} {refP t : Array Nat} {code : UInt64} {ti npl : Nat} {cands : List Nat}
    {p bk f : Nat} (hmm : lzHashingStep ≤ mm)
    (h : findBest mm refP t code ti npl cands = .found p bk f) : 1 ≤ f := by
  have hk : 1 ≤ keyLen mm := by unfold keyLen; omega
  have h4 : 0 < mm := by
    have : 0 < lzHashingStep := by decide
    omega
  exact Nat.le_trans hk (selectBest_fwd h4 cands _ (Or.inl rfl) h)

/-! ## N runs, bang rewriting, tail -/

/-- the `while` of `get_nrun_len` (186-188): number of further N symbols from `t[j]`, at most `n`. -/
def countN (t : Array Nat) : Nat → Nat → Nat
  | _, 0 => 0
  | j, n + 1 => if t[j]? = some lzNCode then countN t (j + 1) n + 1 else 0

/-- `get_nrun_len(&t[i..], t.len() - i)` (180-190). -/
def nrunLen (t : Array Nat) (i : Nat) : Nat :=
  if t.size - i < 3 then 0
  else if t[i]? = some lzNCode ∧ t[i + 1]? = some lzNCode ∧ t[i + 2]? = some lzNCode then
    3 + countN t (i + 3) (t.size - i - 3)
  else 0

/-- The bang scan (515-529) on the token list (newest first). `k` is `scan_i`; the scanned byte is
    the single byte of the `k`-th newest token as long as all newer tokens are literals, and the
    last byte of every other token (`'!'`, `N_CODE`, `'.'`) is outside `'A'..='Z'`, which ends the
    scan. `bound` is `max_scan = min(e_size, adjusted_match_pos)`. `ref_idx = amp - k < amp ≤ h_pos
    < |reference|`, so the index is in range. -/
def bangScan (refP : Array Nat) (amp bound : Nat) : Nat → List Tok → List Tok
  | k, .lit c :: rest =>
    if k < bound ∧ c ≤ 25 then
      (if refP[amp - k]? = some c then Tok.bang else Tok.lit c) :: bangScan refP amp bound (k + 1) rest
    else .lit c :: rest
  | _, toks => toks

/-- lines 511-531. -/
def rewriteBang (refP : Array Nat) (amp pred esz : Nat) (toks : List Tok) : List Tok :=
  if amp = pred then bangScan refP amp (min esz amp) 1 toks else toks

/-- `len_to_encode` (496-502). -/
def matchLenField (refLen tsize i total mpos fwd : Nat) : Option Nat :=
  if i + total = tsize ∧ mpos + fwd = refLen then none else some total

/-- the final literal loop (559-566), pushed onto the newest-first token list. -/
def tailLits (t : Array Nat) (i : Nat) (toks : List Tok) : List Tok :=
  ((t.extract i t.size).toList.map Tok.lit).reverse ++ toks

/-! ## The encoder loop (lines 431-556) -/

/-- `encoded.len()` for the tokens emitted so far (newest first). -/
def encLen (mm : Nat) : List Tok → Nat
  | [] => 0
  | x :: xs => (serTok mm x).length + encLen mm xs

/-- State: `i`, `pred_pos`, `no_prev_literals`, the tokens emitted so far (newest first), `x_prev`.
    `S` supplies the candidate positions for a k-mer code. `e_size = encoded.len()` (512) is
    recomputed from the tokens. The subtractions `i -= len_bck`, `pred_pos -= len_bck`,
    `match_pos - len_bck` never truncate (`len_bck ≤ no_prev_literals ≤ i, pred_pos` and
    `len_bck ≤ h_pos`, see `MatchOK`). -/
def encLoop (S : UInt64 → List Nat) (mm : Nat) (hmm : lzHashingStep ≤ mm) (refP : Array Nat)
    (refLen : Nat) (t : Array Nat) (i pred npl : Nat) (toks : List Tok)
    (xprev : Option UInt64) : Option (List Tok) :=
  if hlt : i + keyLen mm < t.size then
    match nextCode xprev npl t i (keyLen mm) with
    | .oob => none
    | .invalid =>
      if hn : nrunLen t i ≥ lzMinNRunLen then
        encLoop S mm hmm refP refLen t (i + nrunLen t i) pred 0 (.nrun (nrunLen t i) :: toks) none
      else
        match t[i]? with
        | none => none
        | some c => encLoop S mm hmm refP refLen t (i + 1) (pred + 1) (npl + 1) (.lit c :: toks) none
    | .ok code =>
      match hf : findBest mm refP t code i npl (S code) with
      | .panic => none
      | .noMatch =>
        match t[i]? with
        | none => none
        | some c =>
          encLoop S mm hmm refP refLen t (i + 1) (pred + 1) (npl + 1) (.lit c :: toks) (some code)
      | .found mpos bck fwd =>
        -- 482-488: pop the literals covered by the backward extension
        let i' := i - bck
        let pred' := pred - bck
        let toks' := toks.drop bck
        let total := bck + fwd
        let amp := mpos - bck
        let tok := Tok.mtch ((amp : Int) - (pred' : Int)) (matchLenField refLen t.size i' total mpos fwd)
        let toks'' := rewriteBang refP amp pred' (encLen mm toks') toks'
        encLoop S mm hmm refP refLen t (i' + total) (amp + total) 0 (tok :: toks'') (some code)
  else some (tailLits t i toks)
termination_by t.size - i
decreasing_by
  · have : 0 < lzMinNRunLen := by decide
    omega
  · omega
  · omega
  · have := findBest_fwd hmm hf
    omega

/-- `encode` (391-655) for a prepared `LZDiff::new(mm)`: the tokens, oldest first. -/
def encodeToks (S : UInt64 → List Nat) (mm : Nat) (ref tgt : List Nat) : Option (List Tok) :=
  if hmm : lzHashingStep ≤ mm then
    -- 405-418: `target.len() == reference_len && zip(target, reference).all(eq)`
    if tgt.length = ref.length ∧ (tgt.zip (padRef mm ref).toList).all (fun p => p.1 == p.2) then some []
    else (encLoop S mm hmm (padRef mm ref) ref.length tgt.toArray 0 0 0 [] none).map List.reverse
  else none

def encode (S : UInt64 → List Nat) (mm : Nat) (ref tgt : List Nat) : Option (List Nat) :=
  (encodeToks S mm ref tgt).map (serialize mm)

/-! ## The exact candidate supplier: the linear-probing index (lines 100-154, 265-281) -/

/-- `u32::MAX`, the empty slot. -/
def emptySlot : Nat := 0xFFFFFFFF

/-- the counting loop 102-119 over the padded reference: state (no_prev_valid, cnt_mod, ht_size). -/
def countValid (refP : Array Nat) (k : Nat) : Nat :=
  (refP.toList.foldl (fun (st : Nat × Nat × Nat) c =>
      let npv := if c < 4 then st.1 + 1 else 0
      let cm := if st.2.1 + 1 = lzHashingStep then 0 else st.2.1 + 1
      let hs := if cm = k % lzHashingStep ∧ npv ≥ k then st.2.2 + 1 else st.2.2
      (npv, cm, hs)) (0, 0, 0)).2.2

/-- `(n as f64 / 0.7) as u64`, exactly: `0.7f64 = 0x16666666666666 / 2^53`, IEEE division rounds the
    exact quotient to 53 significant bits (nearest, ties to even), the cast truncates.
    (`n < 2^53`, so `n as f64` is exact.) -/
def f64Div07Floor (n : Nat) : Nat :=
  if n = 0 then 0 else
  let num := n * 2 ^ 53
  let den := 0x16666666666666
  let e := Nat.log2 (num / den)
  if e ≤ 52 then
    let s := 52 - e
    let m := (num * 2 ^ s) / den
    let r := (num * 2 ^ s) % den
    let m' := if 2 * r > den ∨ (2 * r = den ∧ m % 2 = 1) then m + 1 else m
    m' / 2 ^ s
  else
    let s := e - 52
    let m := num / (den * 2 ^ s)
    let r := num % (den * 2 ^ s)
    let m' := if 2 * r > den * 2 ^ s ∨ (2 * r = den * 2 ^ s ∧ m % 2 = 1) then m + 1 else m
    m' * 2 ^ s

/-- lines 121-132: load factor, round down to a power of two, double, at least 8. -/
def tableSize (cnt : Nat) : Nat :=
  let s := f64Div07Floor cnt
  let s := if s = 0 then 1 else s
  let s := 2 ^ Nat.log2 s
  let s := s * 2
  if s < 8 then 8 else s

/-- lines 144-150: first empty slot among `tries` probes from `base + j`. -/
def probeInsert (tbl : Array Nat) (base v : Nat) : Nat → Nat → Array Nat
  | 0, _ => tbl
  | tries + 1, j =>
    let idx := (base + j) % tbl.size
    if tbl.getD idx emptySlot = emptySlot then tbl.set! idx v
    else probeInsert tbl base v tries (j + 1)

/-- lines 139-153. -/
def insertLoop (refP : Array Nat) (k : Nat) (tbl : Array Nat) (i : Nat) : Array Nat :=
  if h : i + k < refP.size then
    match getCode refP i k with
    | .ok code =>
      insertLoop refP k
        (probeInsert tbl ((murmur64 code).toNat % tbl.size) (i / lzHashingStep) lzMaxNoTries 0)
        (i + lzHashingStep)
    | _ => insertLoop refP k tbl (i + lzHashingStep)
  else tbl
termination_by refP.size - i
decreasing_by
  all_goals
    have : 0 < lzHashingStep := by decide
    omega

/-- `build_index_lp` (100-154). -/
def buildIndex (refP : Array Nat) (k : Nat) : Array Nat :=
  insertLoop refP k (Array.replicate (tableSize (countValid refP k)) emptySlot) 0

/-- the probe sequence of `find_best_match_lp` (269-278): `h_pos` of every occupied slot up to the
    first empty one, at most `MAX_NO_TRIES`. -/
def probeLookup (tbl : Array Nat) (base : Nat) : Nat → Nat → List Nat
  | 0, _ => []
  | tries + 1, j =>
    let slot := tbl.getD ((base + j) % tbl.size) emptySlot
    if slot = emptySlot then [] else (slot * lzHashingStep) :: probeLookup tbl base tries (j + 1)

def lookup (tbl : Array Nat) (code : UInt64) : List Nat :=
  probeLookup tbl ((murmur64 code).toNat % tbl.size) lzMaxNoTries 0

/-- The supplier that `prepare` builds for the padded reference `refP`. -/
def exactSupplier (mm : Nat) (refP : Array Nat) : UInt64 → List Nat :=
  lookup (buildIndex refP (keyLen mm))

/-- Byte-exact model of `LZDiff::new(mm)`, `prepare(ref)`, `encode(tgt)`.
    (`= encode (exactSupplier mm (padRef mm ref)) mm ref tgt`, see `encodeExact_eq`; written with an
    explicit `let` so that the compiled code builds the table once.) -/
def encodeExact (mm : Nat) (ref tgt : List Nat) : Option (List Nat) :=
  let tbl := buildIndex (padRef mm ref) (keyLen mm)
  encode (lookup tbl) mm ref tgt

theorem encodeExact_eq (mm : Nat) (ref tgt : List Nat) :
    encodeExact mm ref tgt = encode (exactSupplier mm (padRef mm ref)) mm ref tgt := rfl

end Ragc.Model.LzDiff
